import Mercure.Lemmas.SubList
import Mercure.Generated.Facts
/-
  C05 — Each update is handed to exactly the connected subscribers that match it.
-/
namespace Mercure.C05

/-- `decode ∘ encode` returns the sorted topic list and the private flag, for every list of
    strings (U+0000 / U+0001, empty strings and duplicates included). -/
theorem decode_encode (ts : List Str) (p : Bool) (h : ts ≠ []) :
    decode (encode ts p) = (sortStrs ts, p) :=
  Mercure.decode_encode ts p h

/-- Two updates share an index signature only if they have the same topics (up to order) and the
    same private flag: one cached answer is never reused for a different update shape. -/
theorem encode_injective (ts ts' : List Str) (p p' : Bool) (h : ts ≠ []) (h' : ts' ≠ [])
    (e : encode ts p = encode ts' p') : sortStrs ts = sortStrs ts' ∧ p = p' := by
  have h1 := decode_encode ts p h
  have h2 := decode_encode ts' p' h'
  rw [e, h2] at h1
  exact ⟨(Prod.mk.inj h1).1.symm, (Prod.mk.inj h1).2.symm⟩

/-- What the subscriber-side loop computes. -/
theorem matchTopics_iff (M : Str → Str → Bool) (subs allowed ts : List Str) (p : Bool) :
    matchTopics M subs allowed ts p =
      (ts.any (fun t => subs.any (M t)) && (!p || ts.any (fun t => allowed.any (M t)))) :=
  Mercure.matchTopics_eq M subs allowed ts p

/-- Order and duplicates of topics and selectors are irrelevant. -/
theorem matchTopics_perm (M : Str → Str → Bool) {subs subs' allowed allowed' ts ts' : List Str}
    (p : Bool) (h1 : ∀ x, x ∈ subs ↔ x ∈ subs') (h2 : ∀ x, x ∈ allowed ↔ x ∈ allowed')
    (h3 : ∀ x, x ∈ ts ↔ x ∈ ts') :
    matchTopics M subs allowed ts p = matchTopics M subs' allowed' ts' p := by
  rw [matchTopics_eq, matchTopics_eq, Bool.eq_iff_iff]
  simp only [Bool.and_eq_true, Bool.or_eq_true, List.any_eq_true, h1, h2, h3]

abbrev Op := SfOp
abbrev run {V : Type} := @sfRun V

/-- **Exactness for every history.** After any sequence of adds, removes, dispatches and evictions,
    with any cache capacity, a dispatch returns exactly the currently indexed values that pass the
    test for that signature — matching results never go stale. -/
theorem matchAny_exact {V : Type} (test : V → Str → Bool) (cap : Nat) (ops : List (Op V)) (k : Str) :
    ((run test cap ops).matchAny test k).1 = (run test cap ops).list.filter (fun e => test e.2 k) :=
  Mercure.matchAny_exact_of_inv test _ k (Mercure.sfRun_inv test cap ops)

/-- A subscriber added after similar updates were dispatched receives the next one. -/
theorem added_later_receives {V : Type} (test : V → Str → Bool) (cap : Nat) (ops : List (Op V))
    (k : Str) (v : V) (hv : test v k = true) :
    ∃ id, (id, v) ∈ ((run test cap (ops ++ [.add v])).matchAny test k).1 := by
  rw [matchAny_exact]
  refine ⟨(run test cap ops).next, ?_⟩
  simp [run, sfRun, List.foldl_append, sfApply, SkipFilter.add, hv]

/-- A removed subscriber receives nothing more. -/
theorem removed_receives_nothing {V : Type} (test : V → Str → Bool) (cap : Nat) (ops : List (Op V))
    (k : Str) (id : Nat) (v : V) :
    (id, v) ∉ ((run test cap (ops ++ [.remove id])).matchAny test k).1 := by
  rw [matchAny_exact]
  simp [run, sfRun, List.foldl_append, sfApply, SkipFilter.removeId]

/-- The index test the hub installs (subscriberlist.go: `skipfilter.New(func … MatchTopics(decode(filter)))`; `spec v`: the
    selectors and the authorised selectors of subscriber `v`): with `decode_encode` the
    recipients of an update are the connected subscribers matching its topics and private flag. -/
theorem recipients_exact (M : Str → Str → Bool) (spec : Nat → List Str × List Str) (cap : Nat)
    (ops : List (Op Nat)) (ts : List Str) (p : Bool) (h : ts ≠ []) :
    let test := fun (v : Nat) (key : Str) =>
      matchTopics M (spec v).1 (spec v).2 (decode key).1 (decode key).2
    ((run test cap ops).matchAny test (encode ts p)).1 =
      (run test cap ops).list.filter (fun e => matchTopics M (spec e.2).1 (spec e.2).2 ts p) := by
  intro test
  rw [matchAny_exact]
  congr 1
  funext e
  simp only [test, decode_encode ts p h]
  exact matchTopics_perm M p (fun _ => Iff.rfl) (fun _ => Iff.rfl)
    (fun x => mem_sortStrs)

/-- The encoder modelled is the one in /repo: escape and delimiter scalars and the replacer pairs are
    regenerated from subscriberlist.go on every run. -/
theorem repo_sublist_facts :
    Char.ofNat Facts.sublistEscape = escChar ∧ Char.ofNat Facts.sublistDelim = delimChar ∧
    Facts.sublistReplacer = ["string(escape)", "string([]rune{escape,escape})", "string(delim)", "string([]rune{escape,delim})"] := by
  decide +kernel

/-! non-vacuity -/
example : (decode (encode [['b'], [Char.ofNat 0, 'a'], []] true)) = ([[], [Char.ofNat 0, 'a'], ['b']], true) := by
  decide +kernel

end Mercure.C05

#print axioms Mercure.C05.decode_encode
#print axioms Mercure.C05.encode_injective
#print axioms Mercure.C05.matchTopics_iff
#print axioms Mercure.C05.matchTopics_perm
#print axioms Mercure.C05.matchAny_exact
#print axioms Mercure.C05.added_later_receives
#print axioms Mercure.C05.removed_receives_nothing
#print axioms Mercure.C05.recipients_exact
#print axioms Mercure.C05.repo_sublist_facts

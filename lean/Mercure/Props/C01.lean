import Mercure.Lemmas.Hub
/-
  C01 — Private updates reach only subscribers authorized for one of their topics.
  Over every history of public operations (publish / connect with or without replay / client
  close / stalled or failing writer / hub close / restart) on both transports.
  `c.enq` is the ghost log fed by *every* enqueue site: live fan-out, history replay, subscription events.
-/
namespace Mercure.C01

variable (M : Str → Str → Bool) (tokP tokS : Str → Option Claims)
variable (cfg : HubCfg) (kind : Kind) (size cap : Nat)

/-- Everything ever handed to a connection matched its subscription and, when private, its claims. -/
theorem delivered_only_if_allowed (ops : List HubOp) :
    ∀ c ∈ (HubSt.reach M tokP tokS cfg kind size cap ops).conns, ∀ u ∈ c.enq,
      matchTopics M c.sels c.allowed u.topics u.priv = true :=
  fun c hc => (Mercure.reach_ok (tokP := tokP) (tokS := tokS) cfg kind size cap ops c hc).enq

/-- What is written to a stream (or buffered, or in flight) was handed to that connection. -/
theorem written_was_enqueued (ops : List HubOp) :
    ∀ c ∈ (HubSt.reach M tokP tokS cfg kind size cap ops).conns,
      ∀ u, (u ∈ c.written ∨ u ∈ c.out ∨ c.inflight = some u) → u ∈ c.enq :=
  fun c hc => (Mercure.reach_ok (M := M) (tokP := tokP) (tokS := tokS) cfg kind size cap ops c hc).wr

/-- With the meaning of `matchTopics` (C05): a private update reaches a connection only if one of
    its topics matches one of the connection's authorised selectors. -/
theorem private_needs_authorisation (ops : List HubOp) :
    ∀ c ∈ (HubSt.reach M tokP tokS cfg kind size cap ops).conns, ∀ u ∈ c.enq, u.priv = true →
      ∃ t ∈ u.topics, ∃ x ∈ c.allowed, M t x = true := by
  intro c hc u hu hp
  have h := delivered_only_if_allowed M tokP tokS cfg kind size cap ops c hc u hu
  exact Mercure.matchTopics_private M _ _ _ (hp ▸ h)

/-- Anonymous subscribers (no authorised selectors) never receive a private update. -/
theorem anonymous_never_private (ops : List HubOp) :
    ∀ c ∈ (HubSt.reach M tokP tokS cfg kind size cap ops).conns, c.allowed = [] →
      ∀ u ∈ c.enq, u.priv = false := by
  intro c hc ha u hu
  cases hp : u.priv with
  | false => rfl
  | true =>
    obtain ⟨t, _, x, hx, _⟩ := private_needs_authorisation M tokP tokS cfg kind size cap ops c hc u hu hp
    rw [ha] at hx; cases hx

/-- The authorised selectors of a connection are exactly the `mercure.subscribe` claim of a token
    validated under the subscriber key — or nothing. -/
theorem allowed_from_validated_token (ops : List HubOp) :
    ∀ c ∈ (HubSt.reach M tokP tokS cfg kind size cap ops).conns,
      c.allowed = [] ∨ ∃ s cl, tokS s = some cl ∧ c.allowed = cl.mercure.subscribe.getD [] :=
  fun c hc => (Mercure.reach_ok (M := M) (tokP := tokP) cfg kind size cap ops c hc).tok

/-- Subscription events are always private updates. -/
theorem subscription_events_private (s : Subscription) : (subscriptionUpdate s).priv = true := rfl

end Mercure.C01

#print axioms Mercure.C01.delivered_only_if_allowed
#print axioms Mercure.C01.written_was_enqueued
#print axioms Mercure.C01.private_needs_authorisation
#print axioms Mercure.C01.anonymous_never_private
#print axioms Mercure.C01.allowed_from_validated_token
#print axioms Mercure.C01.subscription_events_private

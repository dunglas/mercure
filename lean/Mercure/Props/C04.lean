import Mercure.Lemmas.Auth
import Mercure.Generated.Facts
/-
  C04 — Credential source precedence and the cookie CSRF rule are applied uniformly.
  All three endpoints call the same `authorize`; the endpoint-level corollaries are below.
-/
namespace Mercure.C04

variable (minH minQ : Nat) (tok : Str → Option Claims)

/-- The Authorization header, when present, is the only credential considered: the outcome does not
    depend on the query parameter, the cookie, the method, Origin, Referer or the publish origins. -/
theorem header_only (r r' : AuthReq) (po po' : List Str)
    (h : r.authHeaders ≠ none) (e : r.authHeaders = r'.authHeaders) :
    authorize minH minQ tok r po = authorize minH minQ tok r' po' := by
  obtain ⟨hs, hh⟩ := Option.ne_none_iff_exists'.mp h
  rw [authorize_header hh, authorize_header (e ▸ hh)]

/-- Otherwise the query parameter, when present, is the only credential considered. -/
theorem query_over_cookie (r r' : AuthReq) (po po' : List Str)
    (h0 : r.authHeaders = none) (h0' : r'.authHeaders = none)
    (h : r.queryAuth ≠ none) (e : r.queryAuth = r'.queryAuth) :
    authorize minH minQ tok r po = authorize minH minQ tok r' po' := by
  obtain ⟨qs, hh⟩ := Option.ne_none_iff_exists'.mp h
  rw [authorize_query h0 hh, authorize_query h0' (e ▸ hh)]

/-- A present but invalid / malformed / duplicated header is an error — never a fall-through to a
    lower-priority carrier and never anonymous; when it grants claims they are those of the token in
    the header. -/
theorem header_no_fallthrough (r : AuthReq) (po : List Str) (hs : List Str)
    (h : r.authHeaders = some hs) :
    authorize minH minQ tok r po ≠ .ok none ∧
    ∀ c, authorize minH minQ tok r po = .ok (some c) →
      ∃ hd, hs = [hd] ∧ hasPrefix bearerPrefix hd = true ∧ minH ≤ utf8Len hd ∧
            tok (hd.drop bearerPrefix.length) = some c := by
  rw [authorize_header h]
  rcases hs with _ | ⟨hd, _ | ⟨hd', hs⟩⟩ <;> simp
  split
  · simp
  · rename_i hc
    simp at hc
    refine ⟨validateTok_ne_ok_none _ _, fun c hc' => ⟨hc.2, hc.1, validateTok_ok_some.mp hc'⟩⟩

theorem query_no_fallthrough (r : AuthReq) (po : List Str) (qs : List Str)
    (h0 : r.authHeaders = none) (h : r.queryAuth = some qs) :
    authorize minH minQ tok r po ≠ .ok none ∧
    ∀ c, authorize minH minQ tok r po = .ok (some c) → ∃ q, qs = [q] ∧ minQ ≤ utf8Len q ∧ tok q = some c := by
  rw [authorize_query h0 h]
  rcases qs with _ | ⟨q, _ | ⟨q', qs⟩⟩ <;> simp
  split
  · simp
  · rename_i hc
    simp at hc
    refine ⟨validateTok_ne_ok_none _ _, fun c hc' => ⟨hc, validateTok_ok_some.mp hc'⟩⟩

theorem origin_allowed {po : List Str} {o : Str} :
    po.any (fun a => a == ['*'] || o == a) = true ↔ (o ∈ po ∨ ['*'] ∈ po) := by
  rw [List.any_eq_true]
  constructor
  · rintro ⟨a, ha, h⟩
    rcases Bool.or_eq_true_iff.mp h with h | h
    · exact .inr (eq_of_beq h ▸ ha)
    · exact .inl (eq_of_beq h ▸ ha)
  · rintro (h | h)
    · exact ⟨o, h, by simp⟩
    · exact ⟨_, h, by simp⟩

/-- A cookie credential on a POST is honoured only when the effective origin is one of the
    configured publish origins (or `*` is configured). -/
theorem cookie_post_needs_origin (r : AuthReq) (po : List Str) (c : Claims)
    (h0 : r.authHeaders = none) (h1 : r.queryAuth = none) (hp : r.isPost = true)
    (h : authorize minH minQ tok r po = .ok (some c)) :
    ∃ ck o, r.cookie = some ck ∧ tok ck = some c ∧ effOrigin r = some o ∧ (o ∈ po ∨ ['*'] ∈ po) := by
  rw [authorize_cookie h0 h1] at h
  cases hc : r.cookie with
  | none => rw [hc] at h; cases h
  | some ck =>
    rw [hc] at h; dsimp only at h
    rw [if_pos hp] at h
    cases ho : effOrigin r with
    | none => rw [ho] at h; cases h
    | some o =>
      rw [ho] at h; dsimp only at h
      split at h
      · next ha => exact ⟨ck, o, rfl, validateTok_ok_some.mp h, rfl, origin_allowed.mp ha⟩
      · cases h

/-- …and conversely it *is* honoured then (the rule is exact, not merely safe). -/
theorem cookie_post_allowed (r : AuthReq) (po : List Str) (ck o : Str)
    (h0 : r.authHeaders = none) (h1 : r.queryAuth = none) (hp : r.isPost = true)
    (hc : r.cookie = some ck) (ho : effOrigin r = some o) (hpo : o ∈ po ∨ ['*'] ∈ po) :
    authorize minH minQ tok r po = validateTok tok ck := by
  rw [authorize_cookie h0 h1, hc, ho]; dsimp only
  rw [if_pos hp, if_pos (origin_allowed.mpr hpo)]

/-- Safe methods skip the CSRF rule. -/
theorem safe_methods_skip_csrf (r : AuthReq) (po : List Str) (ck : Str)
    (h0 : r.authHeaders = none) (h1 : r.queryAuth = none) (hp : r.isPost = false)
    (hc : r.cookie = some ck) :
    authorize minH minQ tok r po = validateTok tok ck := by
  rw [authorize_cookie h0 h1, hc, hp]; rfl

/-- A request is anonymous exactly when it carries no credential at all: an invalid credential is
    never downgraded to anonymous access. -/
theorem anonymous_iff_no_credential (r : AuthReq) (po : List Str) :
    authorize minH minQ tok r po = .ok none ↔
      (r.authHeaders = none ∧ r.queryAuth = none ∧ r.cookie = none) := by
  constructor
  · intro h
    rcases authorize_cases minH minQ tok r po with ⟨e, he⟩ | ⟨_, hn⟩ | ⟨s, _, hs⟩
    · rw [he] at h; cases h
    · exact hn
    · exact absurd (hs ▸ h) (validateTok_ne_ok_none tok s)
  · rintro ⟨h0, h1, hc⟩
    rw [authorize_cookie h0 h1, hc]

/-- Whatever is granted was validated under the role's key: claims only ever come from `tok`. -/
theorem claims_only_from_validated_token (r : AuthReq) (po : List Str) (c : Claims)
    (h : authorize minH minQ tok r po = .ok (some c)) : ∃ s, tok s = some c :=
  authorize_ok_some h

/-- An anonymous request can never publish. -/
theorem anonymous_never_publishes (cfg : HubCfg) (M : Str → Str → Bool) (r : PubReq)
    (h : authorize cfg.minHeader cfg.minQuery tok r.auth cfg.publishOrigins = .ok none) :
    publish cfg M tok r = .refused 401 unauthorizedBody := by
  unfold publish; rw [h]

/-- …and can subscribe only if the hub allows anonymous subscribers (when a subscriber key is configured). -/
theorem anonymous_subscribes_iff_allowed (cfg : HubCfg) (r : SubReq) (hk : cfg.subKey = true)
    (h : authorize cfg.minHeader cfg.minQuery tok r.auth [] = .ok none) (ht : r.topics ≠ []) :
    (∃ c p l, subscribeDecision cfg tok r = .accepted c p l) ↔ cfg.anonymous = true := by
  unfold subscribeDecision
  simp only [hk, if_true, h]
  cases ha : cfg.anonymous <;> simp [ht]

/-- The subscription API refuses anonymous callers whenever subscriber tokens are configured. -/
theorem anonymous_never_lists (cfg : HubCfg) (M : Str → Str → Bool) (a : AuthReq) (url : Str)
    (hk : cfg.subKey = true) (h : authorize cfg.minHeader cfg.minQuery tok a [] = .ok none) :
    apiAuthorized cfg M tok a url = false := by
  unfold apiAuthorized; simp [hk, h]

/-- The constants modelled are those of /repo (regenerated on every run). -/
theorem repo_auth_consts : Facts.bearerPrefix = bearerPrefix ∧ Facts.minHeaderLen = 48 ∧ Facts.minQueryLen = 41 := by
  decide +kernel

/-! non-vacuity: a POST with a valid cookie and an allowed Referer-derived origin is granted -/
example : authorize 48 41 (fun s => if s = ['k'] then some {} else none)
    { authHeaders := none, queryAuth := none, cookie := some ['k'], isPost := true, origin := [],
      referer := "https://a/x".toList, refererOrigin := some "https://a".toList } ["https://a".toList]
    = .ok (some {}) := by rfl

end Mercure.C04

#print axioms Mercure.C04.header_only
#print axioms Mercure.C04.query_over_cookie
#print axioms Mercure.C04.header_no_fallthrough
#print axioms Mercure.C04.query_no_fallthrough
#print axioms Mercure.C04.cookie_post_needs_origin
#print axioms Mercure.C04.cookie_post_allowed
#print axioms Mercure.C04.safe_methods_skip_csrf
#print axioms Mercure.C04.anonymous_iff_no_credential
#print axioms Mercure.C04.claims_only_from_validated_token
#print axioms Mercure.C04.anonymous_never_publishes
#print axioms Mercure.C04.anonymous_subscribes_iff_allowed
#print axioms Mercure.C04.anonymous_never_lists
#print axioms Mercure.C04.repo_auth_consts

import Mercure.Lemmas.HubEvents
import Mercure.Generated.Facts
/-
  C17 — Subscription events announce each subscription's start and end exactly once.
  `st.events` is the ghost log of every subscription event a transport accepted: (connection, selector, active).
-/
namespace Mercure.C17

variable (M : Str → Str → Bool) (tokP tokS : Str → Option Claims)
variable (cfg : HubCfg) (kind : Kind) (size cap : Nat)

/-- None when tracking is disabled. -/
theorem tracking_off_none (ops : List HubOp) (h : cfg.subscriptions = false) :
    (HubSt.reach M tokP tokS cfg kind size cap ops).events = [] := by
  have hi := reach_inv M tokP tokS cfg kind size cap ops
  exact hi.ev_off (hi.cfg.symm ▸ h)

/-- Each accepted connection produced exactly one `active=true` event per selector, in selector order. -/
theorem start_exactly_once (ops : List HubOp) (hf : FreshLabels ops) (h : cfg.subscriptions = true) :
    ∀ c ∈ (HubSt.reach M tokP tokS cfg kind size cap ops).conns,
      evs (HubSt.reach M tokP tokS cfg kind size cap ops) c.label true = c.sels := by
  intro c hc
  have hi := reach_inv M tokP tokS cfg kind size cap ops
  exact hi.ev_start (reach_labels_nodup M tokP tokS cfg kind size cap ops hf) (hi.cfg.symm ▸ h)
    c.core (List.mem_map_of_mem hc)

/-- …and exactly one `active=false` event per selector once it is gone (while the hub is open:
    on a closed hub there is nobody left to tell), none before. -/
theorem end_exactly_once (ops : List HubOp) (hf : FreshLabels ops) (h : cfg.subscriptions = true) :
    ∀ c ∈ (HubSt.reach M tokP tokS cfg kind size cap ops).conns,
      evs (HubSt.reach M tokP tokS cfg kind size cap ops) c.label false = (if c.shutdownOpen then c.sels else []) := by
  intro c hc
  have hi := reach_inv M tokP tokS cfg kind size cap ops
  exact hi.ev_end (reach_labels_nodup M tokP tokS cfg kind size cap ops hf) (hi.cfg.symm ▸ h)
    c.core (List.mem_map_of_mem hc)

theorem end_only_when_gone (ops : List HubOp) :
    ∀ c ∈ (HubSt.reach M tokP tokS cfg kind size cap ops).conns, c.shutdownOpen = true → c.done = true := by
  intro c hc hso
  exact (reach_inv M tokP tokS cfg kind size cap ops).so_done c.core (List.mem_map_of_mem hc) hso

/-- Nothing is announced for a request that was refused: every event belongs to an accepted
    connection or to a registration that failed half-way. -/
theorem events_only_for_accepted (ops : List HubOp) :
    ∀ e ∈ (HubSt.reach M tokP tokS cfg kind size cap ops).events,
      (∃ c ∈ (HubSt.reach M tokP tokS cfg kind size cap ops).conns, c.label = e.1) ∨
      (∃ f ∈ (HubSt.reach M tokP tokS cfg kind size cap ops).failed, f.1 = e.1) := by
  intro e he
  rcases (reach_inv M tokP tokS cfg kind size cap ops).ev_labels e he with ⟨x, hx, hxe⟩ | hf
  · obtain ⟨c, hc, hcx⟩ := List.mem_map.1 hx
    exact Or.inl ⟨c, hc, by rw [← hxe, ← hcx]; rfl⟩
  · exact Or.inr hf

/-- **Also when registration fails half-way**: a registration whose `AddSubscriber` failed while the
    hub was open was announced exactly once per selector with active=true and exactly once with
    active=false, in selector order (nothing at all when the hub was closed: nobody is left to tell). -/
theorem failed_registration_announced_once (ops : List HubOp) (hf : FreshLabels ops) (h : cfg.subscriptions = true) :
    ∀ f ∈ (HubSt.reach M tokP tokS cfg kind size cap ops).failed,
      evs (HubSt.reach M tokP tokS cfg kind size cap ops) f.1 true = (if f.2.2 then f.2.1 else []) ∧
      evs (HubSt.reach M tokP tokS cfg kind size cap ops) f.1 false = (if f.2.2 then f.2.1 else []) := by
  intro f hfm
  have hi := reach_inv M tokP tokS cfg kind size cap ops
  exact hi.ev_fail (reach_labels_nodup M tokP tokS cfg kind size cap ops hf) (hi.cfg.symm ▸ h) f hfm

/-- A failed registration leaves nothing behind: it is not a connection, it is not in the
    transport's subscriber list (so the subscription API does not list it), and the gauge did not move. -/
theorem failed_registration_leaves_nothing (ops : List HubOp) (hf : FreshLabels ops) :
    ∀ f ∈ (HubSt.reach M tokP tokS cfg kind size cap ops).failed,
      f.1 ∉ (HubSt.reach M tokP tokS cfg kind size cap ops).index ∧
      ∀ c ∈ (HubSt.reach M tokP tokS cfg kind size cap ops).conns, c.label ≠ f.1 := by
  intro f hfm
  have hi := reach_inv M tokP tokS cfg kind size cap ops
  have hnd := reach_labels_nodup M tokP tokS cfg kind size cap ops hf
  have hdisj : ∀ c ∈ (HubSt.reach M tokP tokS cfg kind size cap ops).conns, c.label ≠ f.1 := fun c hc =>
    labs_nodup_disj hnd c.core (List.mem_map_of_mem hc) f hfm
  refine ⟨?_, hdisj⟩
  intro hidx
  obtain ⟨x, hx, hxl⟩ := hi.idx_sub f.1 hidx
  obtain ⟨c, hc, hcx⟩ := List.mem_map.1 hx
  exact hdisj c hc (by rw [← hxl, ← hcx]; rfl)

/-- Shape: one private update whose only topic is the subscription id
    `/.well-known/mercure/subscriptions/` ++ esc selector ++ `/` ++ esc subscriber. -/
theorem event_shape (spacePlus : Bool) (sel sid payload : Str) (active : Bool) :
    let s : Subscription := { id := subscriptionId spacePlus sel sid, subscriber := sid, topic := sel, active := active, payload := payload }
    (subscriptionUpdate s).topics = [subscriptionsPrefix ++ queryEscape spacePlus sel ++ ['/'] ++ queryEscape spacePlus sid] ∧
    (subscriptionUpdate s).priv = true := by
  intro s; exact ⟨rfl, rfl⟩

/-- The escaped selector and subscriber decode back to the originals (so every id dereferences),
    for both ways of writing a space. -/
theorem esc_roundtrip (b : Bool) (bs : List Nat) (h : ∀ x ∈ bs, x < 256) :
    queryUnescapeBytes (queryEscapeBytes b bs) = some bs := by
  induction bs with
  | nil => rfl
  | cons x xs ih =>
    have hx : x < 256 := h x List.mem_cons_self
    have ih' := ih (fun y hy => h y (List.mem_cons_of_mem _ hy))
    rw [queryEscapeBytes_cons]
    unfold escapeByte
    by_cases hu : isUnreservedByte x = true
    · obtain ⟨h1, h2, h3, _⟩ := unreserved_facts x hx hu
      simp only [hu, ↓reduceIte, List.cons_append, List.nil_append]
      rw [queryUnescapeBytes_other _ _ h1 h2, ih', h3]; rfl
    · simp only [hu, Bool.false_eq_true, ↓reduceIte]
      by_cases hs : (x == 32 && b) = true
      · simp only [hs, ↓reduceIte, List.cons_append, List.nil_append]
        have : x = 32 := by simp at hs; exact hs.1
        rw [queryUnescapeBytes, ih', this]; rfl
      · simp only [hs, Bool.false_eq_true, ↓reduceIte, List.cons_append, List.nil_append]
        rw [queryUnescapeBytes, unhex_hexUpper _ (by omega), unhex_hexUpper _ (by omega), ih']
        simp only [Option.some.injEq, List.cons.injEq, and_true]
        omega

/-- **The id is percent-encoded** (RFC 3986: unreserved characters and %XX only), for every
    selector — which is what makes it an expansion of the `{topic}` / `{subscriber}` variables of the
    subscriptions URL template. Holds for the escaping that writes a space as %20. -/
theorem id_is_percent_encoded (bs : List Nat) (h : ∀ x ∈ bs, x < 256) :
    pctEncoded (queryEscapeBytes false bs) = true := by
  induction bs with
  | nil => rfl
  | cons x xs ih =>
    have hx : x < 256 := h x List.mem_cons_self
    have ih' := ih (fun y hy => h y (List.mem_cons_of_mem _ hy))
    rw [queryEscapeBytes_cons]
    unfold escapeByte
    by_cases hu : isUnreservedByte x = true
    · obtain ⟨h1, _, h3, h4⟩ := unreserved_facts x hx hu
      simp only [hu, ↓reduceIte, List.cons_append, List.nil_append]
      rw [pctEncoded_other _ _ h1, ih', h3, hu]
      simp [h4]
    · simp only [hu, Bool.false_eq_true, ↓reduceIte, Bool.and_false, List.cons_append, List.nil_append]
      rw [pctEncoded, unhex_hexUpper _ (by omega), unhex_hexUpper _ (by omega), ih']
      rfl

/-- The obligation against /repo (regenerated): ids are escaped with a function that writes a space as %20. -/
theorem repo_escapes_space_as_pct20 : Facts.idEscapeFn = "url.QueryEscape;+=%20" := by decide

/-- Witness for the code as found (`url.QueryEscape`, finding F11): "a b" ↦ "a+b", not percent-encoded. -/
theorem C17_counterexample_space_plus : pctEncoded (queryEscapeBytes true [97, 32, 98]) = false := by decide +kernel

end Mercure.C17

#print axioms Mercure.C17.tracking_off_none
#print axioms Mercure.C17.start_exactly_once
#print axioms Mercure.C17.end_exactly_once
#print axioms Mercure.C17.end_only_when_gone
#print axioms Mercure.C17.events_only_for_accepted
#print axioms Mercure.C17.event_shape
#print axioms Mercure.C17.esc_roundtrip
#print axioms Mercure.C17.id_is_percent_encoded
#print axioms Mercure.C17.repo_escapes_space_as_pct20
#print axioms Mercure.C17.C17_counterexample_space_plus
#print axioms Mercure.C17.failed_registration_announced_once
#print axioms Mercure.C17.failed_registration_leaves_nothing

import Mercure.Props.C03Claims
import Mercure.Props.C03Token
import Mercure.Lemmas.Auth
/-
  C03 — Only tokens verifiable with the configured key and algorithm grant rights.

  Partial by nature: that `sigOk` as computed by golang-jwt / Go crypto is cryptographically sound is
  in the trusted base; the theorems cover the decision logic around verification (DESIGN §8 C03).
-/
namespace Mercure.C03

/-- A token yields claims only if it is well-formed, its header algorithm is *exactly* the
    configured one, its signature verifies under the role's key, and exp / nbf are satisfied now. -/
theorem grant_sound (cfgAlg : Str) (t : AbsToken) (c : Claims) (h : validate cfgAlg t = some c) :
    t.wellFormed = true ∧ t.alg = cfgAlg ∧ t.sigOk = true ∧ t.expOk = true ∧ t.nbfOk = true ∧
    c = t.claims.effective := by
  unfold validate at h
  split at h
  · simp_all
  · simp at h

/-- …and every such token does (the check is exact). -/
theorem grant_complete (cfgAlg : Str) (t : AbsToken)
    (h : t.wellFormed = true ∧ t.alg = cfgAlg ∧ t.sigOk = true ∧ t.expOk = true ∧ t.nbfOk = true) :
    validate cfgAlg t = some t.claims.effective := by
  unfold validate; simp [h]

/-- Any other header algorithm — `none`, an HMAC on an RSA/EC hub, a sibling of the same family —
    is refused whatever the signature verdict. -/
theorem other_alg_refused (cfgAlg : Str) (t : AbsToken) (h : t.alg ≠ cfgAlg) : validate cfgAlg t = none := by
  unfold validate; simp [h]

theorem expired_refused (cfgAlg : Str) (t : AbsToken) (h : t.expOk = false) : validate cfgAlg t = none := by
  unfold validate; simp [h]

theorem not_yet_valid_refused (cfgAlg : Str) (t : AbsToken) (h : t.nbfOk = false) : validate cfgAlg t = none := by
  unfold validate; simp [h]

theorem bad_signature_refused (cfgAlg : Str) (t : AbsToken) (h : t.sigOk = false) : validate cfgAlg t = none := by
  unfold validate; simp [h]

/-- A presented token that does not validate makes `authorize` fail — on every endpoint, for every
    value of the anonymous option (which `authorize` does not even see): never a downgrade. -/
theorem invalid_token_is_error (minH minQ : Nat) (tok : Str → Option Claims) (r : AuthReq) (po : List Str) (s : Str)
    (hp : presented minH minQ r = some s) (hv : tok s = none) :
    ∃ e, authorize minH minQ tok r po = .error e := by
  rcases authorize_cases minH minQ tok r po with he | ⟨_, h0, h1, hc⟩ | ⟨s', hp', hs⟩
  · exact he
  · -- no credential at all: nothing is presented
    unfold presented at hp; rw [h0, h1, hc] at hp; cases hp
  · cases hp.symm.trans hp'
    exact ⟨_, hs.trans (validateTok_of_none hv)⟩

/-- Publish: 401. -/
theorem invalid_token_publish_401 (cfg : HubCfg) (M : Str → Str → Bool) (tok : Str → Option Claims) (r : PubReq) (s : Str)
    (hp : presented cfg.minHeader cfg.minQuery r.auth = some s) (hv : tok s = none) :
    publish cfg M tok r = .refused 401 unauthorizedBody := by
  obtain ⟨e, he⟩ := invalid_token_is_error cfg.minHeader cfg.minQuery tok r.auth cfg.publishOrigins s hp hv
  unfold publish; rw [he]

/-- Subscribe: 401 with anonymous mode on *and* off. -/
theorem invalid_token_subscribe_401 (cfg : HubCfg) (tok : Str → Option Claims) (r : SubReq) (s : Str)
    (hk : cfg.subKey = true)
    (hp : presented cfg.minHeader cfg.minQuery r.auth = some s) (hv : tok s = none) :
    subscribeDecision cfg tok r = .refused 401 unauthorizedBody := by
  obtain ⟨e, he⟩ := invalid_token_is_error cfg.minHeader cfg.minQuery tok r.auth [] s hp hv
  unfold subscribeDecision; simp [hk, he]

/-- Subscription API: refused. -/
theorem invalid_token_api_refused (cfg : HubCfg) (M : Str → Str → Bool) (tok : Str → Option Claims) (a : AuthReq) (url s : Str)
    (hk : cfg.subKey = true)
    (hp : presented cfg.minHeader cfg.minQuery a = some s) (hv : tok s = none) :
    apiAuthorized cfg M tok a url = false := by
  obtain ⟨e, he⟩ := invalid_token_is_error cfg.minHeader cfg.minQuery tok a [] s hp hv
  unfold apiAuthorized; simp [hk, he]

/-- Rights granted on subscribe are exactly the validated token's (effective) `mercure.subscribe`. -/
theorem subscribe_rights_from_token (cfg : HubCfg) (tok : Str → Option Claims) (r : SubReq)
    (c : Option Claims) (p : List Str) (l : Str) (h : subscribeDecision cfg tok r = .accepted c p l) :
    (c = none ∧ p = []) ∨ (∃ cl s, c = some cl ∧ tok s = some cl ∧ p = cl.mercure.subscribe.getD []) :=
  subscribeDecision_rights h

/-! non-vacuity -/
example : validate "RS256".toList { wellFormed := true, alg := "HS256".toList, sigOk := true, expOk := true, nbfOk := true, claims := {} } = none := by
  decide +kernel

end Mercure.C03

#print axioms Mercure.C03.grant_sound
#print axioms Mercure.C03.grant_complete
#print axioms Mercure.C03.other_alg_refused
#print axioms Mercure.C03.expired_refused
#print axioms Mercure.C03.not_yet_valid_refused
#print axioms Mercure.C03.bad_signature_refused
#print axioms Mercure.C03.invalid_token_is_error
#print axioms Mercure.C03.invalid_token_publish_401
#print axioms Mercure.C03.invalid_token_subscribe_401
#print axioms Mercure.C03.invalid_token_api_refused
#print axioms Mercure.C03.subscribe_rights_from_token
-- from the bytes of the payload to the claims (Model/Claims; statements in Props/C03Claims)
#print axioms Mercure.C03Claims.claimsOf_encode
#print axioms Mercure.C03Claims.effective_of_encode
#print axioms Mercure.C03Claims.wrong_kind_is_invalid
#print axioms Mercure.C03Claims.non_string_element_is_invalid
#print axioms Mercure.C03Claims.unknown_key_ignored
#print axioms Mercure.C03Claims.fresh_array_is_the_list
#print axioms Mercure.C03Claims.parseJSON_render
#print axioms Mercure.C03Claims.repeated_key_merges
#print axioms Mercure.C03Claims.null_element_keeps_stale_value
#print axioms Mercure.C03Claims.folded_keys
#print axioms Mercure.C03Claims.null_claims
#print axioms Mercure.C03Claims.dates
-- from the compact serialisation to the claims (Model/Token; statements in Props/C03Token)
#print axioms Mercure.C03Token.b64_roundtrip
#print axioms Mercure.C03Token.split_join
#print axioms Mercure.C03Token.derive_mint
#print axioms Mercure.C03Token.malformed_examples

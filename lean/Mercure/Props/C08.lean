import Mercure.Lemmas.BoltStore
import Mercure.Lemmas.Retention
import Mercure.Lemmas.Hub
/-
  C08 — Last-Event-ID negotiation tells the subscriber truthfully whether it lost data.
-/
namespace Mercure.C08

/-- Carrier precedence: the header, else the `lastEventID` query parameter, else — only in
    version-7 compatibility mode — the first legacy `Last-Event-ID` query value. -/
theorem carrier_precedence (compat7 : Bool) (r : LeidReq) :
    requestedLEID compat7 r =
      (if r.header ≠ [] then r.header
       else if r.query ≠ [] then r.query
       else if compat7 = true then (match r.legacy with | some (v :: _) => v | _ => []) else []) := by
  obtain ⟨hd, q, leg⟩ := r
  unfold requestedLEID
  by_cases h1 : hd = []
  · by_cases h2 : q = []
    · rcases leg with _ | _ | ⟨v, t⟩ <;> cases compat7 <;> simp [h1, h2]
    · simp [h1, h2]
  · simp [h1]

theorem legacy_ignored_without_compat (r : LeidReq) (h1 : r.header = []) (h2 : r.query = []) :
    requestedLEID false r = [] := by
  rw [carrier_precedence]
  simp [h1, h2]

/-- The response carries a Last-Event-ID header exactly when one was requested (accepted
    connections on an open hub, both transports). -/
theorem header_iff_requested (M : Str → Str → Bool) (tok : Str → Option Claims) (st : HubSt) (label : Nat)
    (r : SubReq) (resp : SubResp) (st' : HubSt)
    (h : st.connect M tok label r = (st', resp)) (hs : resp.status = 200) :
    resp.respLEID.isSome = (requestedLEID st.cfg.compat7 r.leid != []) := by
  cases hd : subscribeDecision st.cfg tok r with
  | refused s b =>
    rw [connect_refused tok st label r s b hd] at h
    cases h
    rcases subscribeDecision_refused hd with rfl | rfl <;> cases hs
  | accepted c priv leid =>
    rw [connect_accepted tok st label r c priv leid hd] at h
    dsimp only at h
    split at h <;> cases h
    · cases hs
    · rw [← (subscribeDecision_accepted_iff.mp hd).2.2.2.2]
      exact (mkConn_resp M _ _ leid).1

/-- Local transport: always `earliest` (there is no history). -/
theorem local_always_earliest (M : Str → Str → Bool) (tok : Str → Option Claims) (st : HubSt) (label : Nat)
    (r : SubReq) (resp : SubResp) (st' : HubSt) (hk : st.kind = .local)
    (h : st.connect M tok label r = (st', resp)) (x : Str) (hx : resp.respLEID = some x) : x = earliest := by
  cases hd : subscribeDecision st.cfg tok r with
  | refused s b =>
    rw [connect_refused tok st label r s b hd] at h
    cases h
    cases hx
  | accepted c priv leid =>
    rw [connect_accepted tok st label r c priv leid hd] at h
    dsimp only at h
    split at h <;> cases h
    · cases hx
    · exact (mkConn_resp M _ _ leid).2 (((subEvents_static (M := M) { st with uuid := st.uuid + 1 } _ true).2.1).trans hk) x hx

def ids (db : List (Nat × Update)) : List Str := db.map (·.2.id)

/-- `earliest` replays the whole retained history (possibly empty). -/
theorem earliest_whole_history (db : List (Nat × Update)) :
    negotiate db earliest = (earliest, db.map (·.2)) := by
  unfold negotiate
  rw [if_pos (beq_self_eq_true _)]

/-- The response equals the requested id exactly when replay resumes right after that event with
    nothing skipped. -/
theorem resp_eq_req_iff (db : List (Nat × Update)) (r : Str) (hr : r ≠ earliest) :
    (negotiate db r).1 = r ↔ r ∈ ids db := by
  constructor
  · intro h
    apply Classical.byContradiction
    intro hm
    exact (negotiate_fst_ne_of_not_mem db r hr hm).1 h
  · intro hm
    obtain ⟨i, hi⟩ := firstIdx_some_of_mem db r hm
    rw [negotiate_found db r hr i hi]

theorem found_replays_everything_after (db : List (Nat × Update)) (r : Str) (hr : r ≠ earliest)
    (hm : r ∈ ids db) :
    ∃ i, firstIdx db r = some i ∧ negotiate db r = (r, (db.drop (i + 1)).map (·.2)) := by
  obtain ⟨i, hi⟩ := firstIdx_some_of_mem db r hm
  exact ⟨i, hi, negotiate_found db r hr i hi⟩

/-- In every other case the response differs from the requested id and nothing is replayed: a
    client comparing the two detects every loss. -/
theorem otherwise_differs (db : List (Nat × Update)) (r : Str) (hr : r ≠ earliest) (hm : r ∉ ids db) :
    (negotiate db r).1 ≠ r ∧ (negotiate db r).2 = [] :=
  negotiate_fst_ne_of_not_mem db r hr hm

/-- `earliest` in the response means the whole retained history was replayed (given that no stored
    update is itself called "earliest"). -/
theorem resp_earliest_iff_whole_history (db : List (Nat × Update)) (r : Str) (hne : earliest ∉ ids db)
    (h : (negotiate db r).1 = earliest) : (negotiate db r).2 = db.map (·.2) := by
  by_cases hr : r = earliest
  · rw [hr, earliest_whole_history]
  · cases hf : firstIdx db r with
    | some i =>
      rw [negotiate_found db r hr i hf] at h
      exact absurd h hr
    | none =>
      rw [negotiate_not_found db r hr hf] at h ⊢
      cases hl : db.getLast? with
      | none =>
        have : db = [] := by simpa using hl
        rw [this]; rfl
      | some e =>
        rw [hl] at h
        exact absurd (List.mem_map.mpr ⟨e, List.mem_of_getLast? hl, h⟩) hne

/-! non-vacuity -/
example : negotiate [(3, ⟨['a'], [], false, [], [], 0⟩), (4, ⟨['b'], [], false, [], [], 0⟩), (5, ⟨['c'], [], false, [], [], 0⟩)] ['a']
    = (['a'], [⟨['b'], [], false, [], [], 0⟩, ⟨['c'], [], false, [], [], 0⟩]) := by decide +kernel
example : (negotiate [(3, ⟨['a'], [], false, [], [], 0⟩), (4, ⟨['b'], [], false, [], [], 0⟩)] ['z']).1 = ['b'] := by decide +kernel

/-! ### at the level of the bytes in the bucket (Model/BoltStore) -/

/-- The id the Bolt transport announces is computed by comparing `string(k[8:])` of the stored keys with
    the requested id, key after key in byte order. On every bucket the hub can have written this is the
    id `negotiate` announces — the one all the theorems above are about; in particular a requested id
    that is only a *part* of a stored key (a proper suffix or prefix of a stored id, bytes of the sequence
    prefix) is never "found". -/
theorem byte_level_announced_id (debug : Bool) (b : BoltStore.Bucket) (db : List (Nat × Update))
    (req : Str) (toSeq : Nat) (wf : BoltStore.WellFormed debug b db)
    (hr : ∀ e ∈ db, e.2.retry < 2 ^ 64) (hto : ∀ e ∈ db, e.1 ≤ toSeq) :
    BoltStore.respMatches (BoltStore.scan (BoltStore.reqBytes req) toSeq b).1 (negotiate db req).1 :=
  (BoltStore.scan_refines Json.parseUpdate_update debug b db req toSeq wf hr hto).1

/-- ids are compared as byte strings and that is the comparison of the strings themselves -/
theorem id_bytes_injective : Function.Injective utf8Bytes := BoltStore.utf8Bytes_injective

end Mercure.C08

#print axioms Mercure.C08.carrier_precedence
#print axioms Mercure.C08.legacy_ignored_without_compat
#print axioms Mercure.C08.header_iff_requested
#print axioms Mercure.C08.local_always_earliest
#print axioms Mercure.C08.earliest_whole_history
#print axioms Mercure.C08.resp_eq_req_iff
#print axioms Mercure.C08.found_replays_everything_after
#print axioms Mercure.C08.otherwise_differs
#print axioms Mercure.C08.resp_earliest_iff_whole_history
#print axioms Mercure.C08.byte_level_announced_id
#print axioms Mercure.C08.id_bytes_injective

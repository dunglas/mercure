import Mercure.Lemmas.BoltStore
import Mercure.Lemmas.Retention
import Mercure.Lemmas.Hub
import Mercure.Lemmas.SysStream
import Mercure.Generated.Facts
/-
  C07 — Reconnection replays exactly the missed updates, then continues live seamlessly.

  Three layers:
  * operation level (Mercure.Hub model: nothing is published *during* a registration): what is
    negotiated and replayed, for every history incl. retention and restarts;
  * region level (Mercure.Sys): publishes placed anywhere relative to registration / history scan /
    go-live, any number of threads, every schedule, retention size 0: the stream is a gap-free prefix of the ideal
    sequence, and the whole of it at quiescence (`junction_*` below). `Sys.ideal b accepted k` =
    (the stored updates owed after the requested id — or all for 'earliest' — among the first k
    accepted, then everything accepted after the subscriber was indexed) filtered to what it
    matches: what it would have received had it stayed connected;
  * byte level (Model/BoltStore): the scan on the bucket's bytes is the abstract negotiation.
-/
namespace Mercure.C07

/-- A reconnection with the id of a retained update replays exactly the accepted updates that
    follow it (unique ids), for every retention size and cleanup coin sequence. -/
theorem replay_after_retained_id (size : Nat) (ps : List (Bool × Update))
    (huniq : ((ps.map (·.2)).map (·.id)).Nodup) (hne : ∀ p ∈ ps, p.2.id ≠ earliest)
    (i : Nat) (e : Nat × Update) (he : (rRun size ps).db[i]? = some e) :
    negotiate (rRun size ps).db e.2.id = (e.2.id, (ps.map (·.2)).drop e.1) :=
  Mercure.rRun_replay size ps huniq hne i e he

/-- 'earliest' replays the whole retained history. -/
theorem earliest_replays_everything (db : List (Nat × Update)) :
    negotiate db earliest = (earliest, db.map (·.2)) := by
  unfold negotiate; simp

/-- A restart keeps the stored history (and, region level, reloads the sequence: flag `lastSeqOnOpen`). -/
theorem restart_keeps_history (M : Str → Str → Bool) (st : HubSt) (hk : st.kind = .bolt) :
    (st.restart M).db = st.db ∧ (st.restart M).seq = st.seq :=
  ⟨(Mercure.restart_keeps_history M st hk).1, (Mercure.restart_keeps_history M st hk).2.1⟩

/-- The obligation against /repo: the history scan stops *before* an entry stored after the
    registration and the sequence is reloaded on open (regenerated from bolt.go on every run). -/
theorem repo_flags : Facts.sysFlags.cutBeforeDispatch = true ∧ Facts.sysFlags.lastSeqOnOpen = true := by decide

/-- Witness for the code as found (F2/F3): Last-Event-ID u1, u2 published between registration and
    the history scan — delivered from the history *and* from the live queue: [u2, u2]. -/
theorem C07_counterexample_duplicate :
    let pre := Sys.run (Sys.Sys.init Sys.Flags.found .bolt 0 [Sys.Sub.fresh [0] (.id 1) 1000] [.dispatch ⟨1, 0⟩]) (List.replicate 8 0)
    let σ := Sys.run { pre with threads := [⟨.add 0, (Sys.Op.add 0).start, none, none⟩, ⟨.dispatch ⟨2, 0⟩, (Sys.Op.dispatch ⟨2, 0⟩).start, none, none⟩] }
      ([0, 0, 0] ++ List.replicate 12 1 ++ List.replicate 16 0)
    σ.allDone = true ∧ ((Sys.getSub σ 0).enq.map (·.id)) = [2, 2] := by
  decide +kernel

/-- The same schedule on the repaired code: [u2], once. -/
theorem C07_same_schedule_repaired :
    let pre := Sys.run (Sys.Sys.init Sys.Flags.repaired .bolt 0 [Sys.Sub.fresh [0] (.id 1) 1000] [.dispatch ⟨1, 0⟩]) (List.replicate 8 0)
    let σ := Sys.run { pre with threads := [⟨.add 0, (Sys.Op.add 0).start, none, none⟩, ⟨.dispatch ⟨2, 0⟩, (Sys.Op.dispatch ⟨2, 0⟩).start, none, none⟩] }
      ([0, 0, 0] ++ List.replicate 12 1 ++ List.replicate 16 0)
    σ.allDone = true ∧ ((Sys.getSub σ 0).enq.map (·.id)) = [2] := by
  decide +kernel

/-! ### region level: the replay/live junction under every schedule -/

/-- **Nothing lost, duplicated or reordered at the junction**: under every schedule the sequence a
    reconnecting subscriber has been sent is a gap-free prefix of its ideal sequence — also when
    its buffer overflows or it is disconnected or the hub closes (then the stream simply ends)… -/
theorem junction_gap_free_prefix (subs : List Sys.Sub) (ops : List Sys.Op) (wf : Sys.WellFormed subs ops) (sched : List Nat) :
    ∀ b ∈ (Sys.reach Sys.Flags.repaired .bolt 0 subs ops sched).subs, ∀ k, b.joinedAt = some k →
      b.enq <+: Sys.ideal b (Sys.reach Sys.Flags.repaired .bolt 0 subs ops sched).tr.accepted k :=
  Sys.Stream.bolt_stream_prefix_of_ideal subs ops wf sched

/-- …and exactly the ideal sequence once every operation has returned, if it is still connected. -/
theorem junction_complete (subs : List Sys.Sub) (ops : List Sys.Op) (wf : Sys.WellFormed subs ops) (sched : List Nat)
    (hq : (Sys.reach Sys.Flags.repaired .bolt 0 subs ops sched).allDone = true) :
    ∀ s, s ∈ (Sys.reach Sys.Flags.repaired .bolt 0 subs ops sched).tr.index →
      let b := Sys.getSub (Sys.reach Sys.Flags.repaired .bolt 0 subs ops sched) s
      b.ready = true → b.disconnected = false → ∀ k, b.joinedAt = some k →
      b.enq = Sys.ideal b (Sys.reach Sys.Flags.repaired .bolt 0 subs ops sched).tr.accepted k :=
  Sys.Stream.bolt_stream_complete subs ops wf sched hq

/-! ### at the level of the bytes in the bucket (Model/BoltStore) -/

/-- The history scan of `dispatchHistory`, run on the bucket's bytes (keys compared and cut the way
    the code does: `string(k[8:])`, `BigEndian.Uint64(k[:8]) > toSeq`; values decoded with the JSON
    decoder), announces the id and replays the updates that `negotiate` computes on the abstract
    history — for every bucket the hub can have written that holds nothing beyond the cut (`hto`), every requested id
    (stored, repeated, a proper suffix or prefix of a stored id, "earliest", unknown). The operation-level theorems of
    C07/C08 are about `negotiate`. -/
theorem byte_level_scan_is_negotiate (debug : Bool) (b : BoltStore.Bucket) (db : List (Nat × Update))
    (req : Str) (toSeq : Nat) (wf : BoltStore.WellFormed debug b db)
    (hr : ∀ e ∈ db, e.2.retry < 2 ^ 64) (hto : ∀ e ∈ db, e.1 ≤ toSeq) :
    BoltStore.respMatches (BoltStore.scan (BoltStore.reqBytes req) toSeq b).1 (negotiate db req).1 ∧
    BoltStore.decodeAll (BoltStore.scan (BoltStore.reqBytes req) toSeq b).2 = some (negotiate db req).2 :=
  BoltStore.scan_refines Json.parseUpdate_update debug b db req toSeq wf hr hto

/-- With the cut: whatever was stored after `toSeq` (after the registration) is not replayed. -/
theorem byte_level_scan_respects_the_cut (debug : Bool) (b : BoltStore.Bucket) (db : List (Nat × Update))
    (req : Str) (toSeq : Nat) (wf : BoltStore.WellFormed debug b db) (hr : ∀ e ∈ db, e.2.retry < 2 ^ 64) :
    ∃ us, BoltStore.decodeAll (BoltStore.scan (BoltStore.reqBytes req) toSeq b).2 = some us ∧
      us.Sublist (negotiate db req).2 ∧ us.length ≤ (db.filter (fun e => e.1 ≤ toSeq)).length :=
  BoltStore.scan_cut Json.parseUpdate_update debug b db req toSeq wf hr

/-- After a restart `getDBLastEventID` finds the id of the last stored update. -/
theorem byte_level_last_event_id (debug : Bool) (st : BoltStore.St) (db : List (Nat × Update))
    (wf : BoltStore.WellFormed debug st.bucket db) :
    BoltStore.lastEventIdBytes st = db.getLast?.map (fun e => utf8Bytes e.2.id) :=
  BoltStore.lastEventId_refines debug st db wf

/-- The key layout modelled is the one in /repo (regenerated from bolt.go: `persist` builds
    8-byte big-endian sequence ‖ id; `dispatchHistory` and `getDBLastEventID` read `k[8:]` / `k[:8]`). -/
theorem repo_key_shape : Facts.boltKeyShape = "be64(seq)||id" := by decide +kernel

/-- Obligation (regenerated fact): in /repo's `persist` the transport's last sequence and last event id are assigned
    only after `db.Update` has returned — a write transaction that fails (and is rolled back by bbolt) leaves them
    alone, as the model's single-step `db.Update` assumes. With the assignment inside the transaction (the tree as
    found: F14) a refused publication moved the cut-off one past the bucket sequence and the next publication was
    replayed *and* delivered live to a subscriber registering in between (witness: seeded/R-F14, stream [u2 u2]). -/
theorem repo_last_seq_moves_only_on_commit : Facts.lastSeqAfterCommit = true := by decide
end Mercure.C07

#print axioms Mercure.C07.replay_after_retained_id
#print axioms Mercure.C07.earliest_replays_everything
#print axioms Mercure.C07.restart_keeps_history
#print axioms Mercure.C07.repo_flags
#print axioms Mercure.C07.C07_counterexample_duplicate
#print axioms Mercure.C07.C07_same_schedule_repaired
#print axioms Mercure.C07.junction_gap_free_prefix
#print axioms Mercure.C07.junction_complete
#print axioms Mercure.C07.byte_level_scan_is_negotiate
#print axioms Mercure.C07.byte_level_scan_respects_the_cut
#print axioms Mercure.C07.byte_level_last_event_id
#print axioms Mercure.C07.repo_key_shape
#print axioms Mercure.C07.repo_last_seq_moves_only_on_commit

import Mercure.Lemmas.BoltStore
import Mercure.Lemmas.Form
import Mercure.Lemmas.Event
import Mercure.Props.C02
import Mercure.Generated.Facts
/-
  C12 — Every update is written as exactly one SSE event decoding to what was published.
-/
namespace Mercure.C12

/-- For any data payload (empty, multi-line, CR / CRLF line ends, text that looks like SSE fields)
    and any id / type free of line breaks, the bytes written form exactly one event that the
    reference parser (W3C REC-eventsource-20150203) decodes to the published id, type, retry and
    data with line ends normalised to LF. -/
theorem parse_encode (e : Event) (hid : noLineBreak e.id) (hty : noLineBreak e.type) :
    parseSSE e.encode = [e.expected] :=
  Mercure.parse_encode e hid hty

/-- The stream contains nothing but such events and ':' comments, and decodes to exactly the
    events written, in order. -/
theorem parse_stream (cs : List Chunk)
    (h : ∀ e ∈ Chunk.events cs, noLineBreak e.id ∧ noLineBreak e.type) :
    parseSSE (cs.flatMap Chunk.bytes) = (Chunk.events cs).map Event.expected :=
  Mercure.parse_stream cs h

/-- The serialiser modelled is the one in /repo: the replacer pairs (in priority order) and the
    three format strings of `Event.String` are regenerated from event.go on every run. -/
theorem repo_event_format :
    Facts.eventReplacer = ["\r\n".toList, "\ndata: ".toList, "\r".toList, "\ndata: ".toList, "\n".toList, "\ndata: ".toList]
    ∧ Facts.eventFormats = ["event: %s\n".toList, "retry: %d\n".toList, "id: %s\ndata: %s\n\n".toList] := by
  decide +kernel

/-! non-vacuity: a payload with every kind of line end and field look-alikes -/
example : parseSSE ({ data := "a\r\nid: x\r\rdata: y\n".toList, id := "urn:1".toList, type := "t:u".toList, retry := 30 } : Event).encode
    = [{ id := "urn:1".toList, type := "t:u".toList, data := "a\nid: x\n\ndata: y\n".toList, retry := some 30 }] := by
  decide +kernel

/-! ### the persistent transport: stored as JSON, replayed from JSON -/

/-- What the Bolt transport stores for an update (`json.Marshal(*update)`) decodes
    (`json.Unmarshal` in `dispatchHistory`) to exactly that update — every id, topic, type, payload
    (any scalar sequence: quotes, backslashes, control characters, `<>&`, U+2028/9, astral characters,
    text that looks like an escape) and every 64-bit retry. So a replayed event is the published one. -/
theorem stored_value_roundtrip (debug : Bool) (u : Update) (h : u.retry < 2 ^ 64) :
    Json.parseUpdate (Json.update debug u) = some (debug, u) :=
  Json.parseUpdate_update debug u h

/-- Two different updates are never stored as the same bytes. -/
theorem stored_value_injective (d d' : Bool) (u u' : Update) (h : u.retry < 2 ^ 64) (h' : u'.retry < 2 ^ 64)
    (e : Json.update d u = Json.update d' u') : d = d' ∧ u = u' := by
  have := Json.parseUpdate_update d u h
  rw [e, Json.parseUpdate_update d' u' h'] at this
  simp at this
  exact ⟨this.1.symm, this.2.symm⟩

/-- The stored text never contains a raw control character (it is valid JSON whatever the payload). -/
theorem stored_strings_have_no_raw_control (s : Str) : ∀ c ∈ Json.escape s, 32 ≤ c.toNat :=
  Json.escape_no_control s

/-- A whole replay: decoding the values of a history scan yields the stored updates themselves,
    in order (byte-level `scan` + `decodeAll` = the abstract `negotiate`). -/
theorem replayed_events_are_the_stored_ones (debug : Bool) (b : BoltStore.Bucket) (db : List (Nat × Update))
    (req : Str) (toSeq : Nat) (wf : BoltStore.WellFormed debug b db)
    (hr : ∀ e ∈ db, e.2.retry < 2 ^ 64) (hto : ∀ e ∈ db, e.1 ≤ toSeq) :
    BoltStore.decodeAll (BoltStore.scan (BoltStore.reqBytes req) toSeq b).2 = some (negotiate db req).2 :=
  (BoltStore.scan_refines Json.parseUpdate_update debug b db req toSeq wf hr hto).2

/-- The JSON shape modelled is the one in /repo: the exported fields of `Update` (with the embedded
    `Event` flattened), their Go types, no struct tag, no custom (un)marshaller — regenerated from
    update.go / event.go on every run — and bolt.go stores `json.Marshal(*update)` and reads it back
    with `json.Unmarshal`. -/
theorem repo_json_fields :
    Facts.updateJSONFields = ["Topics:[]string", "Private:bool", "Debug:bool", "Data:string", "ID:string", "Type:string", "Retry:uint64"]
    ∧ Facts.updateJSONNames = Json.fieldNames
    ∧ Facts.boltValueCodec = "encoding/json" := by
  decide +kernel

/-! ### from the POST body to the subscriber's stream (Model/Form → Publish → Json → Event) -/

/-- The request `PublishHandler` sees for a form-encoded body. -/
def reqOfBody (auth : AuthReq) (body : Form.Bytes) : Option PubReq :=
  (Form.fieldsOf body).map fun f =>
    { auth := auth, formOk := f.formOk, topics := f.topics, retryStr := f.retry, priv := f.priv,
      data := f.data, id := f.id, type := f.type }

/-- What the hub reads from the body is what the publisher form-encoded: topics in order, data, id,
    type, the retry text, the private flag — for all UTF-8 strings. -/
theorem posted_fields_are_read_back (topics : List Str) (retry data id type : Str) (priv : Bool)
    (hlen : (Form.bodyOf topics retry data id type priv).length ≤ Form.maxFormSize) :
    Form.fieldsOf (Form.bodyOf topics retry data id type priv) =
      some { formOk := true, topics := topics, retry := retry, priv := priv, data := data, id := id, type := type } :=
  Form.fieldsOf_bodyOf topics retry data id type priv hlen

/-- **A body over net/http's form limit (10 MiB) is refused as a whole**: whatever credential comes with
    it, nothing is published — in particular no update built from a prefix of the body (a `data` cut
    short, an `id`, `type` or `private` field dropped because it came after the cut). -/
theorem oversized_body_refused (cfg : HubCfg) (M : Str → Str → Bool) (tok : Str → Option Claims) (auth : AuthReq)
    (body : Form.Bytes) (req : PubReq) (h : Form.maxFormSize < body.length)
    (hreq : reqOfBody auth body = some req) : ∀ u, publish cfg M tok req ≠ .accepted u := by
  intro u hacc
  unfold reqOfBody at hreq
  rw [Form.fieldsOf_too_large body h] at hreq
  simp only [Option.map_some, Option.some.injEq] at hreq
  subst hreq
  have := ((C02.publish_ok_iff cfg M tok _).1 ⟨u, hacc⟩).2.1
  simp at this

theorem form_roundtrip (kvs : List (Form.Bytes × Form.Bytes)) : Form.parseQuery (Form.encodePairs kvs) = (kvs, false) :=
  Form.parseQuery_encodePairs kvs

/-- `strconv.ParseUint` reads back a decimal numeral below 2^64. -/
theorem parseUint64_toDigits (n : Nat) (h : n < 2 ^ 64) : parseUint64 (Nat.toDigits 10 n) = some n := by
  have hd := allDigits_toDigits n
  unfold allDigits at hd
  unfold parseUint64
  rw [if_pos hd]
  simp [Nat.ofDigitChars_ten_toDigits, h]

/-- **End to end**: a publisher form-encodes an update (any UTF-8 topics, data, id, type; any 64-bit
    retry; private or not) and the hub accepts the request (C02 says when). Then the update the hub
    builds carries exactly the posted fields; what the Bolt transport stores for it decodes to it; and
    the bytes written to a subscriber — live or replayed — form exactly one event that a conformant
    parser decodes to the posted id, type, retry and data (line ends normalised to LF). -/
theorem post_to_event (cfg : HubCfg) (M : Str → Str → Bool) (tok : Str → Option Claims) (auth : AuthReq)
    (topics : List Str) (data id type : Str) (retry : Nat) (priv debug : Bool) (hr : retry < 2 ^ 64)
    (hid : noLineBreak id) (hty : noLineBreak type) (req : PubReq) (u : Update)
    (hreq : reqOfBody auth (Form.bodyOf topics (Nat.toDigits 10 retry) data id type priv) = some req)
    (hacc : publish cfg M tok req = .accepted u) :
    u = { id := id, topics := topics, priv := priv, data := data, type := type, retry := retry } ∧
    Json.parseUpdate (Json.update debug u) = some (debug, u) ∧
    parseSSE ({ data := u.data, id := u.id, type := u.type, retry := u.retry } : Event).encode
      = [{ id := id, type := type, data := normaliseEOL data, retry := if retry = 0 then none else some retry }] := by
  -- an accepted request was not over the form limit (`oversized_body_refused`), so the whole body was parsed
  have hlen : (Form.bodyOf topics (Nat.toDigits 10 retry) data id type priv).length ≤ Form.maxFormSize := by
    apply Nat.le_of_not_lt
    intro hbig
    exact oversized_body_refused cfg M tok auth _ req hbig hreq u hacc
  unfold reqOfBody at hreq
  rw [Form.fieldsOf_bodyOf _ _ _ _ _ _ hlen] at hreq
  simp only [Option.map_some, Option.some.injEq] at hreq
  subst hreq
  obtain ⟨h1, h2, h3, h4, h5, h6⟩ := C02.publish_accepted_shape cfg M tok _ u hacc
  have hne : Nat.toDigits 10 retry ≠ [] := Nat.toDigits_ne_nil
  rw [if_neg hne, parseUint64_toDigits retry hr] at h6
  have hu : u = { id := id, topics := topics, priv := priv, data := data, type := type, retry := retry } := by
    cases u
    simp only [Update.mk.injEq]
    exact ⟨h4, h1, h2, h3, h5, (Option.some.inj h6).symm⟩
  subst hu
  exact ⟨rfl, Json.parseUpdate_update debug _ hr, Mercure.parse_encode _ hid hty⟩

/-! non-vacuity: a payload with quotes, a backslash, controls, HTML-sensitive and astral characters -/
def sampleUpdate : Update :=
  { id := "i\"d".toList, topics := ["a<b".toList, [Char.ofNat 0, Char.ofNat 0x2028]], priv := true,
    data := "x\r\n\\u0041\ty😀".toList, type := [], retry := 18446744073709551615 }

example : Json.parseUpdate (Json.update false sampleUpdate) = some (false, sampleUpdate) := by
  decide +kernel

end Mercure.C12

#print axioms Mercure.C12.parse_encode
#print axioms Mercure.C12.parse_stream
#print axioms Mercure.C12.repo_event_format
#print axioms Mercure.C12.stored_value_roundtrip
#print axioms Mercure.C12.stored_value_injective
#print axioms Mercure.C12.stored_strings_have_no_raw_control
#print axioms Mercure.C12.replayed_events_are_the_stored_ones
#print axioms Mercure.C12.repo_json_fields
#print axioms Mercure.C12.posted_fields_are_read_back
#print axioms Mercure.C12.form_roundtrip
#print axioms Mercure.C12.oversized_body_refused
#print axioms Mercure.C12.post_to_event

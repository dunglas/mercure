import Mercure.Model.Config
import Mercure.Generated.Facts
import Mercure.Model.TransportCfg
/-
  C19 — Configuration is applied faithfully and fails closed.
  Over the model of the Caddy module (UnmarshalCaddyfile + Provision) and of the legacy viper options
  (ValidateConfig + NewHubFromViper), for every combination of directives / options and argument classes.
-/
namespace Mercure.C19
open Mercure.Config

theorem ite_ok {ε α : Type} {p : Prop} [Decidable p] {x : ε} {t : Except ε α} {e : α}
    (h : (if p then Except.error x else t) = .ok e) : ¬ p ∧ t = .ok e := by
  by_cases hp : p
  · rw [if_pos hp] at h; cases h
  · rw [if_neg hp] at h; exact ⟨hp, h⟩

theorem not_ok_error {ε α : Type} {x : Except ε α} (h : ∀ e, x ≠ .ok e) : ∃ e, x = .error e := by
  cases x with
  | error e => exact ⟨e, rfl⟩
  | ok a => exact absurd rfl (h a)

theorem origins_ok {l₁ l₂ : List Origin}
    (h : ¬ ((!(l₁.all (·.valid)) || !(l₂.all (·.valid))) = true)) :
    (∀ o ∈ l₁, o.valid = true) ∧ (∀ o ∈ l₂, o.valid = true) := by
  simpa using h

theorem bnot_not {b : Bool} (h : ¬ (!b) = true) : b = true := by cases b <;> simp_all

theorem sub_ok {k : KeyClass} {b : Bool} (h : ¬ (k != .absent && !b) = true) (hk : k ≠ .absent) :
    b = true := by cases b <;> simp_all

/-- inversion of `provisionCaddy.go` -/
theorem go_ok (c : Caddy) (b : Bool) (e : Effective) (h : provisionCaddy.go c b = .ok e) :
    c.pubKey ≠ .absent ∧ ¬ (c.subKey = .absent ∧ c.anonymous = false) ∧
    keyfuncOk c.pubKey (match c.pubAlg with | some a => if a == [] then hs256 else a | none => hs256) = true ∧
    (c.subKey ≠ .absent → keyfuncOk c.subKey (match c.subAlg with | some a => if a == [] then hs256 else a | none => hs256) = true) ∧
    (∀ o ∈ c.publishOrigins, o.valid = true) ∧ (∀ o ∈ c.corsOrigins, o.valid = true) ∧
    e = { anonymous := c.anonymous, subscriptions := c.subscriptions,
          wt := c.wt.getD defaultWT, dt := c.dt.getD defaultDT, hb := c.hb.getD defaultHB,
          pubAlg := (match c.pubAlg with | some a => if a == [] then hs256 else a | none => hs256),
          subAlg := if c.subKey == .absent then none else some (match c.subAlg with | some a => if a == [] then hs256 else a | none => hs256),
          publishOrigins := c.publishOrigins.map (·.text), corsOrigins := c.corsOrigins.map (·.text),
          cookieName := (match c.cookieName with | some n => if n == [] then defaultCookie else n | none => defaultCookie),
          compat7 := b } := by
  unfold provisionCaddy.go at h
  dsimp only at h
  obtain ⟨h1, h⟩ := ite_ok h
  obtain ⟨h2, h⟩ := ite_ok h
  obtain ⟨h3, h⟩ := ite_ok h
  obtain ⟨h4, h⟩ := ite_ok h
  obtain ⟨h5, h⟩ := ite_ok h
  cases h
  obtain ⟨h5, h6⟩ := origins_ok h5
  refine ⟨?_, ?_, bnot_not h3, sub_ok h4, h5, h6, rfl⟩
  · simpa using h1
  · simpa using h2

/-- inversion of `provisionCaddy` -/
theorem caddy_ok (c : Caddy) (e : Effective) (h : provisionCaddy c = .ok e) :
    c.badArgs = false ∧ (c.compat = none ∨ c.compat = some 7) ∧
    provisionCaddy.go c (c.compat == some 7) = .ok e := by
  unfold provisionCaddy at h
  obtain ⟨hb, h⟩ := ite_ok h
  have hb : c.badArgs = false := by simpa using hb
  cases hc : c.compat with
  | none => rw [hc] at h; exact ⟨hb, .inl rfl, h⟩
  | some v =>
    rw [hc] at h
    obtain ⟨hv, h⟩ := ite_ok h
    have : v = 7 := by simpa using hv
    subst this
    exact ⟨hb, .inr rfl, h⟩

/-! ### Caddy module -/

/-- A configuration that lacks a publisher key is rejected at start-up. -/
theorem caddy_no_publisher_key_rejected (c : Caddy) (h : c.pubKey = .absent) :
    ∃ e, provisionCaddy c = .error e := by
  apply not_ok_error
  intro e he
  exact (go_ok _ _ _ (caddy_ok _ _ he).2.2).1 h

/-- …so is one that lacks a subscriber key without anonymous mode. -/
theorem caddy_no_subscriber_key_rejected (c : Caddy) (h : c.subKey = .absent) (ha : c.anonymous = false) :
    ∃ e, provisionCaddy c = .error e := by
  apply not_ok_error
  intro e he
  exact (go_ok _ _ _ (caddy_ok _ _ he).2.2).2.1 ⟨h, ha⟩

/-- Invalid origins, protocol versions other than 7 and malformed directives are rejected. -/
theorem caddy_invalid_rejected (c : Caddy)
    (h : c.badArgs = true ∨ (∃ v, c.compat = some v ∧ v ≠ 7) ∨
         (∃ o ∈ c.publishOrigins, o.valid = false) ∨ (∃ o ∈ c.corsOrigins, o.valid = false)) :
    ∃ e, provisionCaddy c = .error e := by
  apply not_ok_error
  intro e he
  obtain ⟨hb, hc, hg⟩ := caddy_ok _ _ he
  obtain ⟨_, _, _, _, hp, hco, _⟩ := go_ok _ _ _ hg
  rcases h with h | ⟨v, hv, hv7⟩ | ⟨o, ho, hov⟩ | ⟨o, ho, hov⟩
  · rw [hb] at h; cases h
  · rcases hc with hc | hc
    · rw [hc] at hv; cases hv
    · rw [hc] at hv; cases hv; exact hv7 rfl
  · rw [hp o ho] at hov; cases hov
  · rw [hco o ho] at hov; cases hov

/-- Whatever starts is exactly what was configured; omitted options take their defaults. -/
theorem caddy_effective (c : Caddy) (e : Effective) (h : provisionCaddy c = .ok e) :
    e.anonymous = c.anonymous ∧ e.subscriptions = c.subscriptions ∧
    e.wt = c.wt.getD defaultWT ∧ e.dt = c.dt.getD defaultDT ∧ e.hb = c.hb.getD defaultHB ∧
    e.publishOrigins = c.publishOrigins.map (·.text) ∧ e.corsOrigins = c.corsOrigins.map (·.text) ∧
    e.compat7 = (c.compat == some 7) ∧
    e.cookieName = (match c.cookieName with | some n => if n == [] then defaultCookie else n | none => defaultCookie) ∧
    e.pubAlg = (match c.pubAlg with | some a => if a == [] then hs256 else a | none => hs256) ∧
    e.subAlg = (if c.subKey == .absent then none
                else some (match c.subAlg with | some a => if a == [] then hs256 else a | none => hs256)) := by
  obtain ⟨_, _, hg⟩ := caddy_ok _ _ h
  obtain ⟨_, _, _, _, _, _, he⟩ := go_ok _ _ _ hg
  subst he
  exact ⟨rfl, rfl, rfl, rfl, rfl, rfl, rfl, rfl, rfl, rfl, rfl⟩

/-- Fail closed: a hub that starts has a usable publisher key and algorithm, a usable subscriber key
    unless anonymous subscribers are allowed, and only valid origins. -/
theorem caddy_fail_closed (c : Caddy) (e : Effective) (h : provisionCaddy c = .ok e) :
    c.pubKey ≠ .absent ∧ keyfuncOk c.pubKey e.pubAlg = true ∧
    (e.subAlg = none → e.anonymous = true) ∧
    (∀ a, e.subAlg = some a → keyfuncOk c.subKey a = true) ∧
    (∀ o ∈ c.publishOrigins, o.valid = true) ∧ (∀ o ∈ c.corsOrigins, o.valid = true) := by
  obtain ⟨_, _, hg⟩ := caddy_ok _ _ h
  obtain ⟨h1, h2, h3, h4, h5, h6, he⟩ := go_ok _ _ _ hg
  subst he
  refine ⟨h1, h3, ?_, ?_, h5, h6⟩
  · dsimp only
    intro hn
    by_cases hk : c.subKey = .absent
    · cases ha : c.anonymous with
      | true => rfl
      | false => exact absurd ⟨hk, ha⟩ h2
    · rw [if_neg (by simpa using hk)] at hn; cases hn
  · dsimp only
    intro a ha
    by_cases hk : c.subKey = .absent
    · rw [if_pos (by simpa using hk)] at ha; cases ha
    · rw [if_neg (by simpa using hk)] at ha
      cases ha
      exact h4 hk

/-- Omitted security options take their restrictive defaults. -/
theorem caddy_absent_is_restrictive (k k' : KeyClass) (e : Effective)
    (h : provisionCaddy { pubKey := k, subKey := k' } = .ok e) :
    e.anonymous = false ∧ e.subscriptions = false ∧ e.publishOrigins = [] ∧ e.corsOrigins = [] ∧
    e.compat7 = false ∧ e.cookieName = defaultCookie ∧ e.wt = defaultWT ∧ e.dt = defaultDT ∧ e.hb = defaultHB := by
  obtain ⟨h1, h2, h3, h4, h5, h6, h7, h8, h9, _⟩ := caddy_effective _ e h
  exact ⟨h1, h2, h6, h7, h8, h9, h3, h4, h5⟩

/-- Only the exact algorithm families are accepted, each with its own kind of key. -/
theorem keyfunc_families (k : KeyClass) (alg : Str) (h : keyfuncOk k alg = true) :
    (algFamily alg = .hmac) ∨ (algFamily alg = .rsa ∧ k = .rsaPem) ∨ (algFamily alg = .ec ∧ k = .ecPem) ∨
    (algFamily alg = .ed ∧ k = .edPem) := by
  unfold keyfuncOk at h
  cases hk : k <;> cases ha : algFamily alg <;> simp_all

/-! ### legacy options -/

/-- The flags of the code in /repo: both repairs in (`repo_legacy_flags`). -/
def repaired : LegacyFlags := ⟨true, true⟩

theorem firstKey_absent {a b : KeyClass} (h : (firstKey a b == .absent) = true) :
    a = .absent ∧ b = .absent := by
  unfold firstKey at h
  cases a <;> cases b <;> simp_all

theorem legacy_no_publisher_key_rejected (l : Legacy) (h : l.pubKey = .absent) (h' : l.jwtKey = .absent) :
    ∃ e, provisionLegacy repaired l = .error e := by
  apply not_ok_error
  intro e he
  unfold provisionLegacy at he
  obtain ⟨h1, -⟩ := ite_ok he
  simp [h, h'] at h1

theorem legacy_no_subscriber_key_rejected (l : Legacy) (h : l.subKey = .absent) (h' : l.jwtKey = .absent)
    (ha : l.anonymous = false) : ∃ e, provisionLegacy repaired l = .error e := by
  apply not_ok_error
  intro e he
  unfold provisionLegacy at he
  obtain ⟨-, he⟩ := ite_ok he
  obtain ⟨h2, -⟩ := ite_ok he
  simp [h, h', ha, repaired] at h2

theorem legacy_fail_closed (l : Legacy) (e : Effective) (h : provisionLegacy repaired l = .ok e) :
    (e.subAlg = none → e.anonymous = true) ∧ e.anonymous = l.anonymous ∧ e.subscriptions = l.subscriptions ∧
    keyfuncOk (firstKey l.pubKey l.jwtKey) e.pubAlg = true ∧
    (∀ o ∈ l.publishOrigins, o.valid = true) ∧ (∀ o ∈ l.corsOrigins, o.valid = true) ∧
    e.publishOrigins = l.publishOrigins.map (·.text) := by
  unfold provisionLegacy at h
  dsimp only at h
  obtain ⟨h1, h⟩ := ite_ok h
  obtain ⟨h2, h⟩ := ite_ok h
  obtain ⟨h3, h⟩ := ite_ok h
  obtain ⟨h4, h⟩ := ite_ok h
  obtain ⟨h5, h⟩ := ite_ok h
  cases h
  obtain ⟨h5, h6⟩ := origins_ok h5
  refine ⟨?_, rfl, rfl, bnot_not h3, h5, h6, rfl⟩
  dsimp only
  intro hn
  by_cases hk : (firstKey l.subKey l.jwtKey == .absent) = true
  · obtain ⟨ha, hb⟩ := firstKey_absent hk
    cases han : l.anonymous with
    | true => rfl
    | false => simp [ha, hb, han, repaired] at h2
  · rw [if_neg hk] at hn; cases hn

/-- A duration set by the user is the one in effect — also 0 ("disabled"). -/
theorem legacy_durations_applied (l : Legacy) (e : Effective) (h : provisionLegacy repaired l = .ok e) :
    (∀ x, l.wt = some x → e.wt = x) ∧ (∀ x, l.dt = some x → e.dt = x) ∧ (∀ x, l.hb = some x → e.hb = x) ∧
    (l.defaults = true → l.wt = none → e.wt = defaultWT) ∧
    (l.dt = none → e.dt = defaultDT) ∧ (l.hb = none → e.hb = defaultHB) := by
  unfold provisionLegacy at h
  dsimp only at h
  obtain ⟨h1, h⟩ := ite_ok h
  obtain ⟨h2, h⟩ := ite_ok h
  obtain ⟨h3, h⟩ := ite_ok h
  obtain ⟨h4, h⟩ := ite_ok h
  obtain ⟨h5, h⟩ := ite_ok h
  cases h
  dsimp only
  refine ⟨?_, ?_, ?_, ?_, ?_, ?_⟩
  · intro x hx; rw [hx]; dsimp only [Option.getD]
    by_cases hd : x = defaultWT <;> simp [hd]
  · intro x hx; rw [hx]; simp [repaired]
  · intro x hx; rw [hx]; simp [repaired]
  · intro hd hx; rw [hx, hd]; simp
  · intro hx; rw [hx]; cases l.defaults <;> simp [repaired]
  · intro hx; rw [hx]; cases l.defaults <;> simp [repaired]

/-- The obligation against /repo (regenerated from config.go on every run). -/
theorem repo_legacy_flags : Facts.legacyFlags = repaired := by decide

/-- Witnesses for the code as found (findings F10, F12): publisher key only ⇒ a hub with no
    subscriber key although anonymous is off; heartbeat 0 ⇒ 40 s. -/
theorem C19_counterexample_found :
    (∃ e, provisionLegacy ⟨false, false⟩ { pubKey := .text } = .ok e ∧ e.subAlg = none ∧ e.anonymous = false) ∧
    (∃ e, provisionLegacy ⟨false, false⟩ { jwtKey := .text, hb := some 0 } = .ok e ∧ e.hb = 40000) := by
  exact ⟨⟨_, rfl, rfl, rfl⟩, ⟨_, rfl, rfl⟩⟩

/-! ### transport: which one, with which parameters (Caddy `transport` directive, `transport_url`) -/
section Transport
open Mercure.TransportCfg

theorem digitsVal_append (a b : Str) (acc : Nat) :
    digitsVal (a ++ b) acc = (digitsVal a acc).bind (digitsVal b) := by
  induction a generalizing acc with
  | nil => rfl
  | cons c cs ih =>
    simp only [List.cons_append, digitsVal]
    cases digitVal c with
    | none => rfl
    | some d => exact ih _

/-- `parseUint64` accepts exactly the non-empty digit strings whose value fits in 64 bits, and
    returns that value. -/
theorem parseUint64_spec (s : Str) (n : Nat) :
    parseUint64 s = some n ↔ s ≠ [] ∧ digitsVal s 0 = some n ∧ n < 2 ^ 64 := by
  unfold parseUint64
  by_cases hs : s = []
  · subst hs; simp
  · have : (s == []) = false := by simpa using hs
    rw [this]
    simp only [Bool.false_eq_true, if_false]
    cases h : digitsVal s 0 with
    | none => simp [hs]
    | some m =>
      simp only
      by_cases hm : m < 2 ^ 64
      · rw [if_pos hm]
        constructor
        · intro e; cases e; exact ⟨hs, rfl, hm⟩
        · intro ⟨_, e, _⟩; cases e; rfl
      · rw [if_neg hm]
        constructor
        · intro e; cases e
        · intro ⟨_, e, hn⟩; cases e; exact absurd hn hm

/-- inversion of `provisionBoltBlock` -/
theorem block_ok (rt : Nat → Option Nat) (b : BoltBlock) (e : Eff) (h : provisionBoltBlock rt b = .ok e) :
    ∃ size, blockSize rt b.size = some size ∧ (∀ f, b.freq = some f → f.valid = true) ∧
      e = newBolt (b.path.getD []) (b.bucket.getD []) size
            (match b.freq with | some f => f.canon | none => zeroFreq) := by
  unfold provisionBoltBlock at h
  cases hsz : blockSize rt b.size with
  | none => rw [hsz] at h; cases h
  | some size =>
    rw [hsz] at h
    refine ⟨size, rfl, ?_⟩
    cases hf : b.freq with
    | none => rw [hf] at h; cases h; exact ⟨fun _ hf' => (nomatch hf'), rfl⟩
    | some f =>
      rw [hf] at h
      obtain ⟨hv, h⟩ := ite_ok (t := .ok _) h
      cases h
      exact ⟨fun _ hf' => Option.some.inj hf' ▸ bnot_not hv, rfl⟩

/-- A size that is given and well-formed is the size in effect (directive form) — exactly, below 2^53;
    from 2^53 on it is whatever the JSON re-encoding through a float64 makes of it (`rt`). -/
theorem bolt_block_size_applied (rt : Nat → Option Nat) (b : BoltBlock) (e : Eff) (s : Str)
    (hs : b.size = some s) (h : provisionBoltBlock rt b = .ok e) :
    e.kind = .bolt ∧ ∃ n, parseUint64 s = some n ∧ (n < 2 ^ 53 → e.size = n) ∧ (¬ n < 2 ^ 53 → rt n = some e.size) := by
  obtain ⟨size, hsz, -, rfl⟩ := block_ok rt b e h
  refine ⟨rfl, ?_⟩
  rw [hs, blockSize] at hsz
  cases hp : parseUint64 s with
  | none => rw [hp] at hsz; cases hsz
  | some n =>
    rw [hp] at hsz
    refine ⟨n, rfl, fun hn => ?_, fun hn => ?_⟩
    · exact (Option.some.inj ((if_pos hn).symm.trans hsz)).symm
    · exact (if_neg hn).symm.trans hsz

/-- A malformed size or frequency never yields a transport (directive form): fail closed. -/
theorem bolt_block_invalid_rejected (rt : Nat → Option Nat) (b : BoltBlock) :
    ((∃ s, b.size = some s ∧ parseUint64 s = none) ∨ (∃ f, b.freq = some f ∧ f.valid = false)) →
    ∃ err, provisionBoltBlock rt b = .error err := by
  intro h
  apply not_ok_error
  intro e he
  obtain ⟨size, hsz, hfv, -⟩ := block_ok rt b e he
  rcases h with ⟨s, hs, hp⟩ | ⟨f, hf, hv⟩
  · rw [hs, blockSize, hp] at hsz; cases hsz
  · rw [hfv f hf] at hv; cases hv

/-- Omitted sub-directives: nothing is ever discarded (size 0), bucket `updates`, file `bolt.db`; the
    cleanup frequency the module passes is the zero value. -/
theorem bolt_block_defaults (rt : Nat → Option Nat) :
    provisionBoltBlock rt {} = .ok { kind := .bolt, path := defaultPath, bucket := defaultBucket, size := 0, freq := zeroFreq } := by
  rfl

/-- inversion of `provisionURL` on a `bolt://` URL -/
theorem url_ok (u : URL) (e : Eff) (hb : u.scheme = "bolt".toList) (h : provisionURL u = .ok e) :
    ∃ size, urlSize u.size = some size ∧ (u.freq ≠ [] → u.freqArg.valid = true) ∧
      (if u.path = [] then u.host else u.path) ≠ [] ∧
      e = newBolt (if u.path = [] then u.host else u.path) u.bucket size
            (if u.freq = [] then defaultFreqURL else u.freqArg.canon) := by
  unfold provisionURL at h
  rw [hb, if_neg (by decide), if_pos (by decide)] at h
  cases hsz : urlSize u.size with
  | none => rw [hsz] at h; cases h
  | some size =>
    rw [hsz] at h
    obtain ⟨hf, h⟩ := ite_ok (t := ite _ _ _) h
    obtain ⟨hp, h⟩ := ite_ok h
    cases h
    -- the model tests with `==`, the statement with `=`
    simp only [beq_iff_eq] at hp
    refine ⟨size, rfl, fun hne => ?_, hp, by simp only [beq_iff_eq]⟩
    cases hv : u.freqArg.valid
    · simp [hne, hv] at hf
    · rfl

/-- URL form: the parameters given are the ones in effect; an omitted cleanup frequency is 0.3. -/
theorem url_effective (u : URL) (e : Eff) (hb : u.scheme = "bolt".toList) (h : provisionURL u = .ok e) :
    e.kind = .bolt ∧
    (u.size = [] → e.size = 0) ∧ (u.size ≠ [] → parseUint64 u.size = some e.size) ∧
    (u.freq = [] → e.freq = defaultFreqURL) ∧ (u.freq ≠ [] → u.freqArg.valid = true ∧ e.freq = u.freqArg.canon) ∧
    (u.bucket = [] → e.bucket = defaultBucket) ∧ (u.bucket ≠ [] → e.bucket = u.bucket) ∧
    e.path = (if u.path = [] then u.host else u.path) ∧ e.path ≠ [] := by
  obtain ⟨size, hsz, hfv, hp, rfl⟩ := url_ok u e hb h
  unfold urlSize at hsz
  have hpath : (if (if u.path = [] then u.host else u.path) == [] then defaultPath
      else (if u.path = [] then u.host else u.path)) = (if u.path = [] then u.host else u.path) :=
    if_neg (by simpa using hp)
  refine ⟨rfl, fun h0 => ?_, fun h0 => ?_, fun h0 => ?_, fun h0 => ⟨hfv h0, ?_⟩, fun h0 => ?_, fun h0 => ?_,
    hpath, fun hh => hp (hpath.symm.trans hh)⟩
  · show size = 0; simpa [h0] using hsz.symm
  · show _ = some size; simpa [h0] using hsz
  · exact if_pos h0
  · exact if_neg h0
  · simp [newBolt, h0]
  · simp [newBolt, h0]

/-- URL form, fail closed: an unknown scheme, a malformed size or frequency, or no path give no transport. -/
theorem url_invalid_rejected (u : URL) :
    (u.scheme ≠ "local".toList ∧ u.scheme ≠ "bolt".toList) ∨
    (u.scheme = "bolt".toList ∧ (
      (u.size ≠ [] ∧ parseUint64 u.size = none) ∨ (u.freq ≠ [] ∧ u.freqArg.valid = false) ∨
      (u.path = [] ∧ u.host = []))) →
    ∃ err, provisionURL u = .error err := by
  rintro (⟨h1, h2⟩ | ⟨hb, h⟩)
  · unfold provisionURL
    rw [if_neg (by simpa using h1), if_neg (by simpa using h2)]
    exact ⟨_, rfl⟩
  · apply not_ok_error
    intro e he
    obtain ⟨size, hsz, hfv, hp, -⟩ := url_ok u e hb he
    rcases h with ⟨hs, hpu⟩ | ⟨hf, hv⟩ | ⟨hp0, hh⟩
    · rw [urlSize, if_neg (by simpa using hs), hpu] at hsz; cases hsz
    · rw [hfv hf] at hv; cases hv
    · rw [if_pos hp0] at hp; exact hp hh

/-- The deprecated URL, when present, decides alone; `transport local` gives the local transport;
    with neither, the bolt module with its defaults. -/
theorem caddy_transport_selection (rt : Nat → Option Nat) (d : Option Directive) (u : URL) :
    provisionCaddyTransport rt d (some u) = provisionURL u ∧
    provisionCaddyTransport rt (some .local_) none = .ok { kind := .local_ } ∧
    provisionCaddyTransport rt none none = provisionBoltBlock rt {} := ⟨rfl, rfl, rfl⟩

/-- **The environment never overrides the configuration.** MERCURE_TRANSPORT_URL is consulted only when the block
    names no transport at all; a `transport` directive or a `transport_url` is applied as written, whatever the
    process environment holds. -/
theorem env_never_overrides_configuration (rt : Nat → Option Nat) (d : Option Directive) (u : Option URL) (env : Option URL)
    (h : d ≠ none ∨ u ≠ none) :
    provisionCaddyTransportEnv rt d u env = provisionCaddyTransport rt d u := by
  unfold provisionCaddyTransportEnv effectiveURL
  cases u with
  | some u => rfl
  | none =>
    cases d with
    | some d => rfl
    | none => simp at h

/-- … and with no transport configured the variable stands in for `transport_url` (absent: the bolt module's
    defaults). -/
theorem env_is_the_fallback (rt : Nat → Option Nat) (env : Option URL) :
    provisionCaddyTransportEnv rt none none env = provisionCaddyTransport rt none env := rfl

/-- Legacy options: a URL that is set decides; unset, the documented default bolt://updates.db (keep
    everything, cleanup frequency 0.3) when the defaults are loaded, the local transport otherwise. -/
theorem legacy_transport_selection (u : URL) (d : Bool) :
    provisionLegacyTransport d (some u) = provisionURL u ∧
    provisionLegacyTransport true none =
      .ok { kind := .bolt, path := "updates.db".toList, bucket := defaultBucket, size := 0, freq := defaultFreqURL } ∧
    provisionLegacyTransport false none = .ok { kind := .local_ } := ⟨rfl, rfl, rfl⟩

/-- Non-vacuity on concrete arguments: "100" is 100, "007" is 7, 2^64 and
    "1_0", "+1", "" are rejected. -/
theorem parseUint64_examples :
    parseUint64 "100".toList = some 100 ∧ parseUint64 "007".toList = some 7 ∧
    parseUint64 "18446744073709551615".toList = some (2 ^ 64 - 1) ∧
    parseUint64 "18446744073709551616".toList = none ∧ parseUint64 "1_0".toList = none ∧
    parseUint64 "+1".toList = none ∧ parseUint64 [] = none := by decide
end Transport

/-- A role's key source is a function of **that role's directives only** (`roleKeySource` takes nothing else: the
    independence of the two roles is by construction, and is what the correspondence check probes — tokens of set A and
    of set B on both endpoints of hubs provisioned with every combination of the two JWK Set URLs). What the function
    says: a non-empty JWK Set URL wins over the role's literal key, whatever that key is … -/
theorem jwks_url_wins (u : Str) (hu : u ≠ []) (k : Config.KeyClass) : Config.roleKeySource (some u) k = .jwks u := by
  simp [Config.roleKeySource, hu]

/-- … and without one the role verifies with its literal key, or with nothing when none is given. -/
theorem no_jwks_url_uses_the_key (k : Config.KeyClass) :
    Config.roleKeySource none k = (if k = .absent then Config.KeySource.none else .key k) := by
  cases k <;> rfl
end Mercure.C19

#print axioms Mercure.C19.caddy_no_publisher_key_rejected
#print axioms Mercure.C19.caddy_no_subscriber_key_rejected
#print axioms Mercure.C19.caddy_invalid_rejected
#print axioms Mercure.C19.caddy_effective
#print axioms Mercure.C19.caddy_fail_closed
#print axioms Mercure.C19.caddy_absent_is_restrictive
#print axioms Mercure.C19.keyfunc_families
#print axioms Mercure.C19.legacy_no_publisher_key_rejected
#print axioms Mercure.C19.legacy_no_subscriber_key_rejected
#print axioms Mercure.C19.legacy_fail_closed
#print axioms Mercure.C19.legacy_durations_applied
#print axioms Mercure.C19.repo_legacy_flags
#print axioms Mercure.C19.C19_counterexample_found
#print axioms Mercure.C19.parseUint64_spec
#print axioms Mercure.C19.bolt_block_size_applied
#print axioms Mercure.C19.bolt_block_invalid_rejected
#print axioms Mercure.C19.bolt_block_defaults
#print axioms Mercure.C19.url_effective
#print axioms Mercure.C19.url_invalid_rejected
#print axioms Mercure.C19.caddy_transport_selection
#print axioms Mercure.C19.env_never_overrides_configuration
#print axioms Mercure.C19.jwks_url_wins
#print axioms Mercure.C19.no_jwks_url_uses_the_key
#print axioms Mercure.C19.env_is_the_fallback
#print axioms Mercure.C19.parseUint64_examples
#print axioms Mercure.C19.legacy_transport_selection

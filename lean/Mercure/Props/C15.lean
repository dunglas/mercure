import Mercure.Lemmas.Hub
import Mercure.Lemmas.SysSafety
import Mercure.Generated.Facts
/-
  C15 — Closing the hub ends every stream and rejects later operations: at operation level, and, for the
  interleavings of an in-flight close, over the region-level model (`region_*`).
-/
namespace Mercure.C15

variable (M : Str → Str → Bool) (tokP tokS : Str → Option Claims)

/-- Every subscriber registered before the close has its stream ended. -/
theorem close_ends_registered (st : HubSt) (ho : st.closed = false) :
    ∀ c ∈ (st.close M).conns, c.label ∈ st.index → c.closedOut = true :=
  Mercure.close_ends_registered M st ho

/-- Closing twice is harmless. -/
theorem close_idempotent (st : HubSt) : (st.close M).close M = st.close M :=
  Mercure.close_idempotent M st

/-- A publish attempted after close is rejected and has no effect at all. -/
theorem after_close_publish_rejected (st : HubSt) (r : PubReq) :
    ((st.close M).publish M tokP r).1 = st.close M ∧ ((st.close M).publish M tokP r).2.status ≠ 200 :=
  Mercure.closed_publish_noop M tokP (st.close M) (Mercure.close_closed st) r

/-- A subscribe attempted after close is rejected and registers nothing. -/
theorem after_close_subscribe_rejected (st : HubSt) (label : Nat) (r : SubReq) :
    let res := (st.close M).connect M tokS label r
    res.2.status ≠ 200 ∧ res.1.conns = (st.close M).conns ∧ res.1.index = (st.close M).index ∧
    res.1.db = (st.close M).db ∧ res.1.accepted = (st.close M).accepted ∧ res.1.closed = true :=
  Mercure.closed_connect_rejected M tokS (st.close M) (Mercure.close_closed st) label r

/-- The history file can be reopened at once: same content, and the hub reports the id of the last
    stored update as its last event id. -/
theorem reopen_keeps_history (st : HubSt) (hk : st.kind = .bolt) :
    (st.restart M).db = st.db ∧ (st.restart M).seq = st.seq ∧ (st.restart M).closed = false ∧
    (st.restart M).lastEventID = (match st.db.getLast? with | some e => e.2.id | none => earliest) :=
  Mercure.restart_keeps_history M st hk

/-- …and (no retention) it contains every acknowledged update: the stored history is exactly the
    sequence of accepted updates, after any history including closes and restarts. -/
theorem history_is_accepted (cfg : HubCfg) (cap : Nat) (ops : List HubOp) :
    let st := HubSt.reach M tokP tokS cfg .bolt 0 cap ops
    st.db.map (·.2) = st.accepted :=
  Mercure.reach_db_accepted M tokP tokS cfg cap ops

/-! ### region level: Close racing with the other operations (Mercure.Sys, every schedule) -/

/-- When Close has returned, every subscriber it found registered is flagged disconnected (its
    stream is ended, or is being ended by the thread whose send overflowed it)… -/
theorem region_close_flags_registered (kind : Sys.Kind) (size : Nat) (subs : List Sys.Sub) (ops : List Sys.Op)
    (wf : Sys.WellFormed subs ops) (sched : List Nat)
    (hd : (Sys.reach Sys.Flags.repaired kind size subs ops sched).tr.onceDone = true) :
    ∀ s ∈ (Sys.reach Sys.Flags.repaired kind size subs ops sched).tr.walked,
      (Sys.getSub (Sys.reach Sys.Flags.repaired kind size subs ops sched) s).disconnected = true :=
  Sys.Safety.close_flags_registered kind size subs ops wf sched hd

/-- …and once every operation has returned its stream is ended, whatever was in flight when the
    close started. -/
theorem region_close_ends_registered (kind : Sys.Kind) (size : Nat) (subs : List Sys.Sub) (ops : List Sys.Op)
    (wf : Sys.WellFormed subs ops) (sched : List Nat)
    (hq : (Sys.reach Sys.Flags.repaired kind size subs ops sched).allDone = true)
    (hd : (Sys.reach Sys.Flags.repaired kind size subs ops sched).tr.onceDone = true) :
    ∀ s ∈ (Sys.reach Sys.Flags.repaired kind size subs ops sched).tr.walked,
      (Sys.getSub (Sys.reach Sys.Flags.repaired kind size subs ops sched) s).outClosed = true :=
  Sys.Safety.close_ends_registered kind size subs ops wf sched hq hd

/-- Closed stays closed, and an operation that starts after the close is rejected with
    ErrClosedTransport and changes neither the transport nor any subscriber. -/
theorem region_after_close_rejected (σ : Sys.Sys) (i : Nat) (th : Sys.Thread) (hth : σ.threads[i]? = some th)
    (hp : σ.panic = none) (hc : σ.tr.closedCh = true)
    (h : (∃ u, th.stack = [.tDispatch u 0 []]) ∨ (∃ s, th.stack = [.tAdd s 0 0 [] .earliest]) ∨ (∃ s, th.stack = [.tRemove s 0])) :
    (Sys.step σ i).σ.tr = σ.tr ∧ (Sys.step σ i).σ.subs = σ.subs ∧
    ((Sys.step σ i).σ.threads[i]?.bind (·.ret)) = some .errClosed :=
  Sys.Safety.after_close_rejected σ i th hth hp hc h

theorem region_closed_is_stable (σ : Sys.Sys) (i : Nat) (h : σ.tr.closedCh = true) :
    (Sys.step σ i).σ.tr.closedCh = true :=
  Sys.Safety.closed_is_stable σ i h

/-- The obligation against /repo (regenerated from local.go / bolt.go on every run): `Close` walks the
    whole subscriber list — the callback it gives to `Walk` is a function literal that only ever returns
    `true` (`Walk` stops at the first `false`) — as the model's close frame, which visits every
    registered subscriber, assumes. -/
theorem repo_close_visits_every_subscriber : Facts.closeWalksAll = true := by decide

end Mercure.C15

#print axioms Mercure.C15.close_ends_registered
#print axioms Mercure.C15.close_idempotent
#print axioms Mercure.C15.after_close_publish_rejected
#print axioms Mercure.C15.after_close_subscribe_rejected
#print axioms Mercure.C15.reopen_keeps_history
#print axioms Mercure.C15.history_is_accepted
#print axioms Mercure.C15.region_close_flags_registered
#print axioms Mercure.C15.region_close_ends_registered
#print axioms Mercure.C15.region_after_close_rejected
#print axioms Mercure.C15.region_closed_is_stable
#print axioms Mercure.C15.repo_close_visits_every_subscriber

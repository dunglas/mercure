import Mercure.Lemmas.SysProgress
import Mercure.Generated.Facts
/-
  C14 — No interleaving of hub operations panics, deadlocks or races.
  Over the region-level model (Mercure.Sys), for every schedule, any number of threads, both transports.

  Partial by nature: memory-model-level race freedom is argued from the lock discipline (the
  regenerated flag `localMatchLocked`: every SubscriberList.MatchAny runs under the exclusive
  transport lock) and cross-checked dynamically with the race detector; skipfilter / roaring
  internals are covered by that contract, not modelled.
-/
namespace Mercure.C14
open Mercure.Sys

/-- **No panic**: no schedule of any well-formed set of operations reaches a send on, or a close
    of, a closed channel. -/
theorem no_panic (kind : Kind) (size : Nat) (subs : List Sub) (ops : List Op)
    (wf : WellFormed subs ops) (sched : List Nat) :
    (reach Flags.repaired kind size subs ops sched).panic = none :=
  Safety.no_panic kind size subs ops wf sched

/-- The invariant behind it: a closed channel is always flagged (and every send / close happens
    under outMutex after re-reading the flag). -/
theorem closed_implies_flag (kind : Kind) (size : Nat) (subs : List Sub) (ops : List Op)
    (wf : WellFormed subs ops) (sched : List Nat) :
    ∀ b ∈ (reach Flags.repaired kind size subs ops sched).subs, b.outClosed = true → b.disconnected = true :=
  Safety.closed_implies_flag kind size subs ops wf sched

/-- **No deadlock**: in every reachable state in which some operation has not returned, some thread
    can take a step (locks are acquired in the order transport < liveMutex < outMutex; a read
    transaction never waits for the transport lock; Close waits for readers only while holding it). -/
theorem no_deadlock (kind : Kind) (size : Nat) (subs : List Sub) (ops : List Op)
    (wf : WellFormed subs ops) (sched : List Nat)
    (hn : (reach Flags.repaired kind size subs ops sched).allDone = false) :
    ∃ i, (step (reach Flags.repaired kind size subs ops sched) i).moved = true :=
  Progress.no_deadlock kind size subs ops wf sched hn

/-- The obligation against /repo: all six repairs are in the sources (regenerated on every run),
    in particular MatchAny is only ever called under the exclusive transport lock. -/
theorem repo_flags : Facts.sysFlags = Flags.repaired ∧ Facts.sysFlags.localMatchLocked = true := by decide

/-- Witness for the code as found (F7): AddSubscriber with history ‖ Dispatch ‖ Close — Ready sends
    the queued live update on the channel Close has closed. -/
theorem C14_counterexample_send_on_closed :
    (reach Flags.found .bolt 0 [Sub.fresh [0] .earliest 3] [.add 0, .dispatch ⟨1, 0⟩, .close]
      (List.replicate 4 0 ++ List.replicate 12 1 ++ List.replicate 8 2 ++ List.replicate 8 0)).panic
      = some "send on closed channel" := by
  decide +kernel

/-- Witness for the code as found (F8): two concurrent Disconnects both pass the unlocked test. -/
theorem C14_counterexample_double_close :
    (reach Flags.found .local 0 [Sub.fresh [0] .none 3] [.disconnect 0, .disconnect 0]
      [0, 1, 0, 0, 0, 1, 1, 1]).panic = some "close of closed channel" := by
  decide +kernel

end Mercure.C14

#print axioms Mercure.C14.no_panic
#print axioms Mercure.C14.closed_implies_flag
#print axioms Mercure.C14.no_deadlock
#print axioms Mercure.C14.repo_flags
#print axioms Mercure.C14.C14_counterexample_send_on_closed
#print axioms Mercure.C14.C14_counterexample_double_close

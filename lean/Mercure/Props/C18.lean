import Mercure.Lemmas.HubEvents
/-
  C18 — The subscription API lists exactly the connected subscribers, authorized only.
-/
namespace Mercure.C18

variable (M : Str → Str → Bool) (tokP tokS : Str → Option Claims)
variable (cfg : HubCfg) (kind : Kind) (size cap : Nat)

/-- At every quiescent point of an open hub the index holds exactly the connections of the current hub
    incarnation that are not gone. -/
theorem index_is_connected (ops : List HubOp) (hf : FreshLabels ops) :
    let st := HubSt.reach M tokP tokS cfg kind size cap ops
    st.closed = false → st.index = (st.conns.filter (fun c => !c.done && c.epoch == st.epoch)).map (·.label) := by
  intro st hcl
  have hi := reach_inv M tokP tokS cfg kind size cap ops
  have := hi.index (reach_labels_nodup M tokP tokS cfg kind size cap ops hf) hcl
  show st.abs.index = _
  rw [this]
  show ((st.conns.map Conn.core).filter _).map _ = _
  rw [List.filter_map, List.map_map]
  rfl

/-- The collection: one document per (indexed subscriber, selector); restricted to one selector when requested. -/
theorem list_exact (st : HubSt) (a : AuthReq) (url topic inm : Str)
    (h : (st.apiList M tokS a url topic inm).status = 200) :
    (st.apiList M tokS a url topic inm).docs =
      (st.index.filterMap (getConn st.conns)).flatMap (fun c => subDocsOf st.cfg M c topic true) ∧
    (st.apiList M tokS a url topic inm).lastEventID = st.lastEventID := by
  unfold HubSt.apiList at h ⊢
  by_cases h1 : (!apiAuthorized st.cfg M tokS a url) = true
  · simp [h1] at h
  · by_cases h2 : (inm == st.lastEventID) = true
    · simp [h1, h2] at h
    · simp [h1, h2]

theorem list_all_selectors (st : HubSt) (c : Conn) :
    (subDocsOf st.cfg M c [] true).map (·.topic) = c.sels :=
  subDocs_topics st.cfg M c true

theorem list_filtered (st : HubSt) (c : Conn) (topic : Str) (ht : topic ≠ []) :
    ∀ d ∈ subDocsOf st.cfg M c topic true, d.topic = topic ∧ d.subscriber = c.sid ∧ d.active = true := by
  intro d hd
  rw [mem_subDocsOf] at hd
  obtain ⟨t, _, hp, rfl⟩ := hd
  rcases hp with h0 | ⟨_, h2⟩
  · exact absurd h0 ht
  · exact ⟨h2, rfl, rfl⟩

theorem listed_mem_conns (st : HubSt) : ∀ c ∈ st.index.filterMap (getConn st.conns), c ∈ st.conns := by
  intro c hc
  obtain ⟨l, _, hl⟩ := List.mem_filterMap.1 hc
  exact List.mem_of_find?_eq_some hl

/-- Every listed id, when dereferenced, returns that same subscription (M reflexive, as `matchSpec` is). -/
theorem deref_roundtrip (hM : ∀ t, M t t = true) (st : HubSt) (hu : (st.conns.map (·.sid)).Nodup)
    (a : AuthReq) (url url' topic inm : Str)
    (h : (st.apiList M tokS a url topic inm).status = 200)
    (ha : apiAuthorized st.cfg M tokS a url' = true) (hinm : inm ≠ st.lastEventID)
    (d : Subscription) (hd : d ∈ (st.apiList M tokS a url topic inm).docs) (hne : d.topic ≠ []) :
    (st.apiGet M tokS a url' d.topic d.subscriber inm).status = 200 ∧
    (st.apiGet M tokS a url' d.topic d.subscriber inm).docs = [d] := by
  have _hne := hne
  rw [(list_exact M tokS st a url topic inm h).1, List.mem_flatMap] at hd
  obtain ⟨c, hc, hdc⟩ := hd
  rw [mem_subDocsOf] at hdc
  obtain ⟨t, ht, _, hdeq⟩ := hdc
  have hdt : d.topic = t := by rw [hdeq]
  have hds : d.subscriber = c.sid := by rw [hdeq]
  rw [hdt, hds]
  have hmt : matchTopics M c.sels c.allowed [t] false = true := by
    rw [matchTopics_eq]
    simp only [List.any_cons, List.any_nil, Bool.or_false, Bool.not_false, Bool.true_or, Bool.and_true]
    exact List.any_eq_true.2 ⟨t, ht, hM t⟩
  unfold HubSt.apiGet
  simp only [ha, Bool.not_true, Bool.false_eq_true, ↓reduceIte, beq_iff_eq, hinm]
  split
  · -- the subscriber id singles out `c`, the selector its document: the first hit is `d`
    rename_i x rest heq
    have hx := heq ▸ List.mem_cons_self (a := x) (l := rest)
    rw [List.mem_flatMap] at hx
    obtain ⟨c', hc', hx⟩ := hx
    rw [List.mem_filter] at hc' hx
    have : c' = c := eq_of_map_nodup (·.sid) hu (listed_mem_conns st c' hc'.1) (listed_mem_conns st c hc) (by simpa using hc'.2)
    subst this
    obtain ⟨t', _, _, hxeq⟩ := (mem_subDocsOf M).1 hx.1
    have : t' = t := by have := hx.2; rw [hxeq] at this; simpa using this
    simp [hxeq, hdeq, this]
  · -- and `d` is a hit
    rename_i heq
    have h1 := List.flatMap_eq_nil_iff.1 heq c (List.mem_filter.2 ⟨hc, beq_self_eq_true c.sid⟩)
    have h2 := List.filter_eq_nil_iff.1 h1 d ((mem_subDocsOf M).2 ⟨t, ht, Or.inr ⟨hmt, rfl⟩, hdeq⟩)
    exact absurd (beq_iff_eq.2 hdt) h2

/-- Unknown subscriber ⇒ 404. -/
theorem unknown_is_404 (st : HubSt) (a : AuthReq) (url topic sub inm : Str)
    (ha : apiAuthorized st.cfg M tokS a url = true) (hinm : inm ≠ st.lastEventID)
    (hs : ∀ c ∈ st.conns, c.sid ≠ sub) :
    (st.apiGet M tokS a url topic sub inm).status = 404 := by
  have hnil : (st.index.filterMap (getConn st.conns)).filter (·.sid == sub) = [] := by
    rw [List.filter_eq_nil_iff]
    intro c hc
    simpa using hs c (listed_mem_conns st c hc)
  unfold HubSt.apiGet
  simp only [ha, hnil]
  simp [hinm]

/-- If-None-Match equal to the hub's last event id ⇒ 304. -/
theorem etag_not_modified (st : HubSt) (a : AuthReq) (url topic : Str)
    (ha : apiAuthorized st.cfg M tokS a url = true) :
    (st.apiList M tokS a url topic st.lastEventID).status = 304 := by
  unfold HubSt.apiList
  simp [ha]

/-- Whenever subscriber tokens are configured every endpoint refuses callers whose
    `mercure.subscribe` selectors do not match the requested URL. -/
theorem api_authz (st : HubSt) (hk : st.cfg.subKey = true) (a : AuthReq) (url topic sub inm : Str)
    (h : (st.apiList M tokS a url topic inm).status ≠ 401 ∨ (st.apiGet M tokS a url topic sub inm).status ≠ 401) :
    ∃ c sels, authorize st.cfg.minHeader st.cfg.minQuery tokS a [] = .ok (some c) ∧
      c.mercure.subscribe = some sels ∧ ∃ x ∈ sels, M url x = true := by
  have hauth : apiAuthorized st.cfg M tokS a url = true := by
    cases hn : apiAuthorized st.cfg M tokS a url
    · simp [HubSt.apiList, HubSt.apiGet, hn] at h
    · rfl
  unfold apiAuthorized at hauth
  rw [hk] at hauth
  simp only [Bool.not_true, Bool.false_eq_true, ↓reduceIte] at hauth
  split at hauth
  · rename_i c hc
    split at hauth
    · rename_i sels' hs'
      refine ⟨c, sels', hc, hs', ?_⟩
      simpa [canReceive] using hauth
    · simp at hauth
  · simp at hauth


/-- Subscriber ids are unique in every reachable state (the hypothesis of `deref_roundtrip`).
    The model's counting UUID generator (`uuidOf`) wraps at 16^12, hence the bound on the number of ids
    handed out so far; real UUIDs (uuid.NewV4) are assumed fresh — trusted base. -/
theorem sids_unique (ops : List HubOp)
    (hb : (HubSt.reach M tokP tokS cfg kind size cap ops).uuid ≤ 16 ^ 12) :
    ((HubSt.reach M tokP tokS cfg kind size cap ops).conns.map (·.sid)).Nodup := by
  obtain ⟨ns, h1, h2, h3⟩ := (reach_inv M tokP tokS cfg kind size cap ops).sids
  have e : (HubSt.reach M tokP tokS cfg kind size cap ops).conns.map (·.sid) =
      (HubSt.reach M tokP tokS cfg kind size cap ops).abs.conns.map (·.sid) := by
    show _ = (List.map Conn.core _).map _
    rw [List.map_map]; rfl
  rw [e, h1]
  exact nodup_map_uuidOf ns h2 (fun n hn => Nat.lt_of_lt_of_le (h3 n hn) hb)

end Mercure.C18

#print axioms Mercure.C18.index_is_connected
#print axioms Mercure.C18.list_exact
#print axioms Mercure.C18.list_all_selectors
#print axioms Mercure.C18.list_filtered
#print axioms Mercure.C18.deref_roundtrip
#print axioms Mercure.C18.unknown_is_404
#print axioms Mercure.C18.etag_not_modified
#print axioms Mercure.C18.api_authz
#print axioms Mercure.C18.sids_unique

import Mercure.Lemmas.Token
/-
  Property theorems about reading a token's bytes (part of C03); proofs in Lemmas/Token.lean.
  `b64encode`, `headerJSON`, `mint` are the issuer's side (defined in Lemmas/Token.lean): RawURLEncoding without padding,
  the header {"alg":"…","typ":"JWT"}, the three segments joined with '.'.
-/
namespace Mercure.C03Token
open Mercure.TokenBytes Mercure.ClaimsJson

/-- base64url (no padding) decodes back to the bytes that were encoded — for every byte string. -/
theorem b64_roundtrip (bs : List UInt8) : b64decode (b64encode bs) = some bs :=
  Mercure.TokenBytes.b64decode_b64encode bs

/-- Three dot-free segments joined with '.' split back into themselves. -/
theorem split_join (a b c : Str) (ha : '.' ∉ a) (hb : '.' ∉ b) (hc : '.' ∉ c) :
    splitDots (a ++ '.' :: b ++ '.' :: c) = [a, b, c] :=
  Mercure.TokenBytes.splitDots_join a b c ha hb hc

/-- **The rights read from a token are the ones its issuer encoded**: for every registered algorithm name, all selector
    lists (nil / empty / any strings), with or without the namespaced claim and `exp`, and any signature bytes — what
    `ParseUnverified` + the claims decoding extract from the compact serialisation is that algorithm and those claims. -/
theorem derive_mint (alg : String) (halg : alg ∈ knownAlgs)
    (p s : Option (List Str)) (ns : Option (Option (List Str) × Option (List Str))) (e : Option Nat) (sig : List UInt8) :
    ∃ c, derive (mint alg.toList (encode p s ns e) sig) = .ok alg.toList c ∧
      ({ mercure := c.mercure.toClaim, namespaced := c.namespaced.map M.toClaim, exp := c.exp.map (·.1) } : Claims) =
        { mercure := { publish := p, subscribe := s, payload := [] },
          namespaced := ns.map fun (np, nsub) => { publish := np, subscribe := nsub, payload := [] },
          exp := e } :=
  Mercure.TokenBytes.derive_mint alg halg p s ns e sig

/-- fewer or more than three segments, or a character outside the alphabet: the token is malformed (grants nothing) -/
theorem malformed_examples :
    (match derive "a.b".toList with | .malformed => true | _ => false) = true ∧
    (match derive "a.b.c.d".toList with | .malformed => true | _ => false) = true ∧
    (match derive "e30=.e30.e30".toList with | .malformed => true | _ => false) = true := by decide +kernel

end Mercure.C03Token

#print axioms Mercure.C03Token.b64_roundtrip
#print axioms Mercure.C03Token.split_join
#print axioms Mercure.C03Token.derive_mint
#print axioms Mercure.C03Token.malformed_examples

import Mercure.Model.Timed
/-
  The vocabulary of C16's statements: which trace entries are writes and which are endings, the times of
  the successful writes, chains, sorted arrivals. `Lemmas/Timed` reasons about these directly.
-/
namespace Mercure.C16
open Mercure.Timed

def Ev.isWrite : Ev → Bool
  | .comment => true
  | .event _ => true
  | _ => false

def Ev.isEnd : Ev → Bool
  | .selfClose => true
  | .clientClose => true
  | .endWrite => true
  | _ => false

/-- Times of the successful writes, in order. -/
def writeTimes (tr : List (Nat × Ev)) : List Nat := (tr.filter (fun p => Ev.isWrite p.2)).map (·.1)

/-- Every two consecutive elements are related. -/
def Chain (R : Nat → Nat → Prop) : List Nat → Prop
  | [] => True
  | [_] => True
  | a :: b :: l => R a b ∧ Chain R (b :: l)

def Sorted (arr : List (Nat × Nat)) : Prop := arr.Pairwise (fun a b => a.1 ≤ b.1)

end Mercure.C16

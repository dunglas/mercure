import Mercure.Lemmas.BoltStore
import Mercure.Lemmas.Retention
import Mercure.Model.Retention64
import Mercure.Generated.Facts
/-
  C10 — History retention keeps a contiguous most-recent window of the configured size.
-/
namespace Mercure.C10

/-- The retained history is always a contiguous suffix of the accepted updates: no update is
    discarded while an older one is kept — for every size, every cleanup coin sequence. -/
theorem retained_is_suffix (size : Nat) (ps : List (Bool × Update)) :
    ∃ k, ((rRun size ps).db.map (·.2)) = (rRun size ps).acc.drop k ∧
         ((rRun size ps).db.map (·.1)) = List.range' (k + 1) ((rRun size ps).acc.length - k) :=
  have ⟨_, _, k, h, _⟩ := rRun_inv size ps
  ⟨k, h.snd, h.fst⟩

/-- The accepted log is what was published, in order; the sequence counter counts it. -/
theorem accepted_is_published (size : Nat) (ps : List (Bool × Update)) :
    (rRun size ps).acc = ps.map (·.2) ∧ (rRun size ps).seq = ps.length :=
  ⟨(rRun_inv size ps).1, (rRun_inv size ps).2.1⟩

/-- It never holds fewer than min(published, size) updates. -/
theorem retained_ge_min (size : Nat) (hs : 0 < size) (ps : List (Bool × Update)) :
    min ps.length size ≤ (rRun size ps).db.length := by
  obtain ⟨hacc, _, k, hk, _, hle, _⟩ := rRun_inv size ps
  rw [hk.length, hacc, List.length_map]
  omega

/-- When cleanup runs on every publication it holds exactly that many. -/
theorem retained_eq_min_when_always_cleaning (size : Nat) (hs : 0 < size) (ps : List (Bool × Update))
    (hc : ∀ p ∈ ps, p.1 = true) :
    (rRun size ps).db.length = min ps.length size := by
  obtain ⟨hacc, _, k, hk, _, hle, hlast⟩ := rRun_inv size ps
  rw [hk.length, hacc, List.length_map]
  -- only the last publication matters
  cases hl : ps.getLast? with
  | none => rw [List.getLast?_eq_none_iff.1 hl] at hle ⊢; simp at hle ⊢
  | some q => rw [hlast q hl (hc q (List.mem_of_getLast? hl)) hs]; omega

/-- Size 0 means nothing is ever discarded. -/
theorem size_zero_keeps_all (ps : List (Bool × Update)) :
    (rRun 0 ps).db.map (·.2) = ps.map (·.2) := by
  obtain ⟨hacc, _, k, hk, hz, _⟩ := rRun_inv 0 ps
  rw [hk.snd, hz rfl, hacc]; rfl

/-- Consequently a replay from any retained id is complete: with unique ids, negotiating from the
    id of a retained update returns that id and exactly the accepted updates after it. -/
theorem replay_from_retained_complete (size : Nat) (ps : List (Bool × Update))
    (huniq : ((ps.map (·.2)).map (·.id)).Nodup) (hne : ∀ p ∈ ps, p.2.id ≠ earliest)
    (i : Nat) (e : Nat × Update) (he : (rRun size ps).db[i]? = some e) :
    negotiate (rRun size ps).db e.2.id = (e.2.id, (ps.map (·.2)).drop e.1) :=
  Mercure.rRun_replay size ps huniq hne i e he

/-! ### machine width -/
section Width
open Mercure.Retention64

/-- `cleanup` on uint64 deletes exactly the keys the `Nat`-level `retain` drops — for every 64-bit
    size, last sequence number and key (no wrap-around: the guard `size ≥ last` precedes the
    subtraction). -/
theorem cleanup64_refines_retain (size lastID key : BitVec 64) :
    deletes size lastID key =
      (!(size.toNat == 0 || size.toNat ≥ lastID.toNat) && decide (key.toNat ≤ lastID.toNat - size.toNat)) := by
  unfold deletes removeUntil
  by_cases h0 : size = 0#64
  · subst h0; simp
  · have hs : size.toNat ≠ 0 := by
      intro h; apply h0; apply BitVec.eq_of_toNat_eq; simpa using h
    have hbeq : (size == 0#64) = false := by simpa using h0
    have hsz : (size.toNat == 0) = false := by simpa using hs
    by_cases hle : lastID.toNat ≤ size.toNat
    · have hu : lastID.ule size = true := by simpa [BitVec.ule] using hle
      have hd : decide (size.toNat ≥ lastID.toNat) = true := by simpa using hle
      rw [hbeq, hu, hsz, hd]; rfl
    · have hu : lastID.ule size = false := by simpa [BitVec.ule] using hle
      have hd : decide (size.toNat ≥ lastID.toNat) = false := by simpa using hle
      have hsub : (lastID - size).toNat = lastID.toNat - size.toNat := by
        rw [BitVec.toNat_sub]; have := lastID.isLt; have := size.isLt; omega
      rw [hbeq, hu, hsz, hd]
      simp only [Bool.or_self, Bool.false_eq_true, if_false, Bool.not_false, Bool.true_and]
      simp only [BitVec.ule, hsub]

/-- The retained window computed at machine width is the model's: filtering a bucket with `deletes`
    is `retain`. -/
theorem retain64 (size lastID : BitVec 64) (db : List (Nat × Update))
    (hk : ∀ e ∈ db, e.1 < 2 ^ 64) :
    db.filter (fun e => !deletes size lastID (BitVec.ofNat 64 e.1)) = retain size.toNat lastID.toNat db := by
  unfold retain
  by_cases hg : (size.toNat == 0 || size.toNat ≥ lastID.toNat) = true
  · rw [if_pos hg]
    apply List.filter_eq_self.mpr
    intro e _
    rw [cleanup64_refines_retain, hg]; rfl
  · rw [if_neg hg]
    apply List.filter_congr
    intro e he
    have hlt := hk e he
    rw [cleanup64_refines_retain]
    have : (size.toNat == 0 || size.toNat ≥ lastID.toNat) = false := by simpa using hg
    rw [this]
    simp only [Bool.not_false, Bool.true_and, BitVec.toNat_ofNat, Nat.mod_eq_of_lt hlt]
    by_cases hc : e.1 ≤ lastID.toNat - size.toNat
    · simp [hc]
    · simp [hc]; omega

/-- Witness for the signed rewrite (seeded change N-C10): with size 2^64−1 and three stored updates it
    deletes the key just written, the unsigned code deletes nothing. -/
theorem signed_rewrite_deletes_everything :
    deletesSigned (BitVec.ofNat 64 (2 ^ 64 - 1)) 3#64 3#64 = true ∧
    deletes (BitVec.ofNat 64 (2 ^ 64 - 1)) 3#64 3#64 = false := by decide

/-- The obligation against /repo (regenerated from bolt.go on every run): the guard of `cleanup` is
    the unsigned `t.size >= lastID`, the bound is `lastID - t.size`, and the function converts
    neither to a signed type. -/
theorem repo_cleanup_guard : Facts.cleanupUnsignedGuard = true := by decide
end Width

/-! non-vacuity -/
example : ((rRun 2 [(false, ⟨['a'], [], false, [], [], 0⟩), (false, ⟨['b'], [], false, [], [], 0⟩),
                    (false, ⟨['c'], [], false, [], [], 0⟩), (true, ⟨['d'], [], false, [], [], 0⟩)]).db.map (·.1)) = [3, 4] := by
  decide +kernel

/-- **Also when the configuration changes at a restart** (another `size`, another cleanup frequency,
    on the same database file): whatever size is in force at each publication and whatever the coins,
    the retained history is a contiguous suffix of the accepted updates stored under consecutive
    sequence numbers ending at the last one — no update is discarded while an older one is kept. -/
theorem retained_is_suffix_any_sizes (ps : List (Nat × Bool × Update)) :
    ∃ k, k ≤ ps.length ∧ (rRunV ps).db.map (·.2) = (rRunV ps).acc.drop k ∧
         (rRunV ps).db.map (·.1) = List.range' (k + 1) (ps.length - k) ∧ (rRunV ps).acc.length = ps.length := by
  obtain ⟨hl, k, hk, h1, h2⟩ := rRunV_inv ps
  rw [hl] at hk h2
  exact ⟨k, hk, h1, h2, hl⟩

/-! ### at the level of the bytes in the bucket (Model/BoltStore) -/

/-- `persist` + `cleanup` on the bucket's bytes (big-endian keys compared as bytes, the delete loop
    reading `Uint64(k[:8])`) is `rPublish` on the abstract history: after any publication history the
    bucket holds exactly the keys and values of `(rRun size ps).db`, about which the theorems above speak. -/
theorem byte_level_retention_is_rRun (debug : Bool) (size : Nat) (ps : List (Bool × Update)) (hlen : ps.length < 2 ^ 64) :
    BoltStore.WellFormed debug (ps.foldl (BoltStore.persist size debug) {}).bucket (rRun size ps).db ∧
    (ps.foldl (BoltStore.persist size debug) {}).seq = (rRun size ps).seq :=
  BoltStore.run_refines debug size ps hlen

/-- so the stored keys are a contiguous run of sequence numbers ending at the last one -/
theorem byte_level_keys_contiguous (debug : Bool) (size : Nat) (ps : List (Bool × Update)) (hlen : ps.length < 2 ^ 64) :
    ∃ k, (ps.foldl (BoltStore.persist size debug) {}).bucket.map (fun e => BoltStore.be64Val e.1)
      = List.range' (k + 1) (ps.length - k) := by
  obtain ⟨k, _, hk⟩ := retained_is_suffix size ps
  obtain ⟨h1, _, h3⟩ := (BoltStore.wf_iff _ _ _).1 (BoltStore.run_refines debug size ps hlen).1
  refine ⟨k, ?_⟩
  have hacc := (accepted_is_published size ps).1
  rw [hacc, List.length_map] at hk
  rw [← hk, h1, List.map_map]
  apply List.map_congr_left
  intro e he
  have hb := BoltStore.be64Val_enc debug e (h3 e he)
  simpa [Function.comp] using hb

end Mercure.C10

#print axioms Mercure.C10.retained_is_suffix
#print axioms Mercure.C10.accepted_is_published
#print axioms Mercure.C10.retained_ge_min
#print axioms Mercure.C10.retained_eq_min_when_always_cleaning
#print axioms Mercure.C10.size_zero_keeps_all
#print axioms Mercure.C10.replay_from_retained_complete
#print axioms Mercure.C10.cleanup64_refines_retain
#print axioms Mercure.C10.retain64
#print axioms Mercure.C10.signed_rewrite_deletes_everything
#print axioms Mercure.C10.repo_cleanup_guard
#print axioms Mercure.C10.byte_level_retention_is_rRun
#print axioms Mercure.C10.byte_level_keys_contiguous
#print axioms Mercure.C10.retained_is_suffix_any_sizes

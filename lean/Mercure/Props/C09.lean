import Mercure.Lemmas.Retention
import Mercure.Lemmas.BoltStore
import Mercure.Lemmas.SysDurable
import Mercure.Generated.Facts
/-
  C09 — Acknowledged and delivered updates are durable and atomic across crashes.
  Over the region-level model (Mercure.Sys, Bolt transport), for every schedule; a crash may occur
  in ANY state (`restart` drops every volatile component and keeps the committed store).

  Partial by nature: that one bbolt transaction is atomic and durable, and that the file always
  reopens, are assumptions (the model's `db.Update` is a single step); they are exercised by the
  kill runs of the correspondence (SIGKILL at every synchronisation point inside and around a
  publish), not proved.
-/
namespace Mercure.C09
open Mercure.Sys

/-- Whatever has been handed to any subscriber had been persisted before. -/
theorem delivered_implies_stored (size : Nat) (subs : List Sub) (ops : List Op) (wf : WellFormed subs ops) (sched : List Nat) :
    ∀ b ∈ (reach Flags.repaired .bolt size subs ops sched).subs, ∀ u ∈ b.enq,
      u ∈ (reach Flags.repaired .bolt size subs ops sched).tr.accepted :=
  Durable.delivered_was_accepted size subs ops wf sched

/-- A publish that was acknowledged had persisted its update. -/
theorem acked_implies_stored (size : Nat) (subs : List Sub) (ops : List Op) (wf : WellFormed subs ops) (sched : List Nat) :
    ∀ th ∈ (reach Flags.repaired .bolt size subs ops sched).threads, ∀ u, th.op = .dispatch u → th.ret = some .ok →
      u ∈ (reach Flags.repaired .bolt size subs ops sched).tr.accepted :=
  Durable.acked_was_accepted size subs ops wf sched

/-- The store is the accepted sequence minus a discarded prefix, each update at the position it
    was given when accepted. -/
theorem store_is_suffix_at_fixed_positions (size : Nat) (subs : List Sub) (ops : List Op) (wf : WellFormed subs ops) (sched : List Nat) :
    let σ := reach Flags.repaired .bolt size subs ops sched
    σ.tr.seq = σ.tr.accepted.length ∧
    ∃ k, σ.tr.db.map (·.2) = σ.tr.accepted.drop k ∧ σ.tr.db.map (·.1) = List.range' (k + 1) (σ.tr.accepted.length - k) :=
  Durable.store_is_suffix_at_fixed_positions size subs ops wf sched

/-- Without retention nothing accepted is ever missing … -/
theorem nothing_lost_without_retention (subs : List Sub) (ops : List Op) (wf : WellFormed subs ops) (sched : List Nat) :
    (reach Flags.repaired .bolt 0 subs ops sched).tr.db.map (·.2) = (reach Flags.repaired .bolt 0 subs ops sched).tr.accepted :=
  Durable.nothing_lost_without_retention subs ops wf sched

/-- … and with retention the last `size` are there. -/
theorem recent_are_stored (size : Nat) (subs : List Sub) (ops : List Op) (hs : 0 < size) (wf : WellFormed subs ops) (sched : List Nat) :
    let σ := reach Flags.repaired .bolt size subs ops sched
    ∀ j, σ.tr.accepted.length - size ≤ j → ∀ u, σ.tr.accepted[j]? = some u → (j + 1, u) ∈ σ.tr.db :=
  Durable.recent_are_stored size subs ops hs wf sched

/-- Killed at any instant and restarted: the committed store, its sequence counter and positions
    are intact; the hub reports the id of the last stored update; the sequence is reloaded. An
    interrupted publish is wholly present or wholly absent because persisting is one step. -/
theorem crash_restart_keeps_committed (σ : Sys) (subs' : List Sub) (ops' : List Op) :
    (restart σ subs' ops').tr.db = σ.tr.db ∧ (restart σ subs' ops').tr.seq = σ.tr.seq ∧
    (restart σ subs' ops').tr.accepted = σ.tr.accepted ∧
    (restart σ subs' ops').tr.lastId = (match σ.tr.db.getLast? with | some e => .id e.2.id | none => .earliest) ∧
    (σ.flags.lastSeqOnOpen = true → (restart σ subs' ops').tr.lastSeq = σ.tr.seq) ∧
    (restart σ subs' ops').tr.closedCh = false ∧ (restart σ subs' ops').tr.index = [] :=
  Durable.crash_restart_keeps_committed σ subs' ops'

/-- No step rewrites or reorders what is stored: an entry stays where it is or is discarded by retention. -/
theorem positions_are_stable (σ : Sys) (i : Nat) (e : Nat × Upd) (he : e ∈ σ.tr.db) :
    e ∈ (step σ i).σ.tr.db ∨ (σ.tr.size ≠ 0 ∧ e.1 + σ.tr.size ≤ (step σ i).σ.tr.seq) :=
  Durable.step_keeps_positions σ i e he

/-- The obligation against /repo (regenerated): the sequence is reloaded when the transport is reopened. -/
theorem repo_flags : Facts.sysFlags.lastSeqOnOpen = true := by decide

/-! ### at the level of the bytes in the bucket (Model/BoltStore) -/

/-- "At the same position": a stored update's position is its key, and bbolt's byte order on the keys
    the hub writes is the numeric order of the sequence numbers, whatever the ids are. -/
theorem key_order_is_sequence_order (a b : Nat) (ha : a < 2 ^ 64) (hb : b < 2 ^ 64) (x y : BoltStore.Bytes) (hab : a ≠ b) :
    BoltStore.bytesLt (BoltStore.be64 a ++ x) (BoltStore.be64 b ++ y) = decide (a < b) :=
  BoltStore.bytesLt_key a b ha hb x y hab

/-- The sequence number and the id are read back from a key exactly as they were written. -/
theorem key_roundtrip (seq : Nat) (h : seq < 2 ^ 64) (id : Str) :
    BoltStore.be64Val (BoltStore.mkKey seq id) = seq ∧ BoltStore.keyIdBytes (BoltStore.mkKey seq id) = utf8Bytes id :=
  ⟨BoltStore.be64Val_be64 seq h _, BoltStore.keyIdBytes_mkKey seq id⟩

/-- Any publication history: the bucket holds, byte for byte, the keys and JSON values of the abstract
    retained history — which the theorems above (and C10's) describe — and reading it back the way the
    code does returns that history. -/
theorem bucket_bytes_are_the_history (debug : Bool) (size : Nat) (ps : List (Bool × Update)) (hlen : ps.length < 2 ^ 64)
    (hr : ∀ p ∈ ps, p.2.retry < 2 ^ 64) :
    BoltStore.abs (ps.foldl (BoltStore.persist size debug) {}).bucket = some (rRun size ps).db := by
  have h := BoltStore.run_refines debug size ps hlen
  refine BoltStore.abs_wellFormed Json.parseUpdate_update debug _ _ h.1 ?_
  intro e he
  obtain ⟨p, hp, hpe⟩ := Mercure.rRun_db_published size ps he
  rw [← hpe]
  exact hr p hp

end Mercure.C09

#print axioms Mercure.C09.delivered_implies_stored
#print axioms Mercure.C09.acked_implies_stored
#print axioms Mercure.C09.store_is_suffix_at_fixed_positions
#print axioms Mercure.C09.nothing_lost_without_retention
#print axioms Mercure.C09.recent_are_stored
#print axioms Mercure.C09.crash_restart_keeps_committed
#print axioms Mercure.C09.positions_are_stable
#print axioms Mercure.C09.repo_flags
#print axioms Mercure.C09.key_order_is_sequence_order
#print axioms Mercure.C09.key_roundtrip
#print axioms Mercure.C09.bucket_bytes_are_the_history

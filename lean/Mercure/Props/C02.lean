import Mercure.Lemmas.Auth
import Mercure.Lemmas.Template
/-
  C02 — Updates are dispatched only for publishers authorized for every topic.
  Here the decision itself. The "no effect at all" half — state unchanged on refusal — is at hub level:
  `Mercure.publish_refused_noop` (Lemmas/Hub), exported as `C20.refused_publish_counts_nothing`.
-/
namespace Mercure.C02

/-- `canDispatch` is "every topic is covered by `*` or a matching selector" — wherever `*` and the
    forbidden topic sit in their lists. -/
theorem canDispatch_iff (M : Str → Str → Bool) (ts sels : List Str) :
    canDispatch M ts sels = ts.all (fun t => sels.any (fun x => x == ['*'] || M t x)) :=
  canDispatch_eq_all_any M ts sels

/-- Position independence: only membership in the topic list and in the claim matters. -/
theorem canDispatch_perm (M : Str → Str → Bool) {ts ts' sels sels' : List Str}
    (h1 : ∀ x, x ∈ ts ↔ x ∈ ts') (h2 : ∀ x, x ∈ sels ↔ x ∈ sels') :
    canDispatch M ts sels = canDispatch M ts' sels' := by
  rw [Bool.eq_iff_iff, canDispatch_eq_true_iff, canDispatch_eq_true_iff]
  simp only [h1, h2]

/-- The publisher is authorised for this request. -/
def Authorised (cfg : HubCfg) (M : Str → Str → Bool) (tok : Str → Option Claims) (r : PubReq) : Prop :=
  ∃ c ps, authorize cfg.minHeader cfg.minQuery tok r.auth cfg.publishOrigins = .ok (some c) ∧
    c.mercure.publish = some ps ∧
    ((∀ t ∈ r.topics, ∃ p ∈ ps, p = ['*'] ∨ M t p = true) ∨ (cfg.compat7 = true ∧ r.priv = false))

def WellFormed (r : PubReq) : Prop :=
  r.formOk = true ∧ r.topics ≠ [] ∧ (r.retryStr = [] ∨ (parseUint64 r.retryStr).isSome = true)

/-- **A POST is accepted iff** it carries a valid publisher token whose `mercure.publish` is defined
    and covers every topic (or: version-7 compatibility and the update is not private), and the body
    is well-formed. -/
theorem publish_ok_iff (cfg : HubCfg) (M : Str → Str → Bool) (tok : Str → Option Claims) (r : PubReq) :
    (∃ u, publish cfg M tok r = .accepted u) ↔ (Authorised cfg M tok r ∧ WellFormed r) := by
  simp only [publish_accepted_iff, Authorised, WellFormed, canDispatch_eq_true_iff]
  constructor
  · rintro ⟨u, c, ps, retry, ha, hps, hf, ht, hre, hd, -⟩
    refine ⟨⟨c, ps, ha, hps, hd⟩, hf, ht, ?_⟩
    by_cases hr : r.retryStr = []
    · exact .inl hr
    · rw [if_neg hr] at hre; exact .inr (by rw [hre]; rfl)
  · rintro ⟨⟨c, ps, ha, hps, hd⟩, hf, ht, hr⟩
    obtain ⟨retry, hre⟩ : ∃ retry, (if r.retryStr = [] then some 0 else parseUint64 r.retryStr) = some retry := by
      by_cases h0 : r.retryStr = []
      · exact ⟨0, if_pos h0⟩
      · rw [if_neg h0]; exact Option.isSome_iff_exists.1 (hr.resolve_left h0)
    exact ⟨_, c, ps, retry, ha, hps, hf, ht, hre, hd, rfl⟩

/-- Every refusal is a 4xx carrying a fixed status text — never an update id. -/
theorem publish_refused_4xx (cfg : HubCfg) (M : Str → Str → Bool) (tok : Str → Option Claims) (r : PubReq)
    (s : Nat) (b : Str) (h : publish cfg M tok r = .refused s b) :
    (s = 401 ∧ b = unauthorizedBody) ∨
    (s = 400 ∧ (b = badRequestBody ∨ b = "Missing \"topic\" parameter\n".toList ∨ b = "Invalid \"retry\" parameter\n".toList)) :=
  publish_refused h

/-- What is dispatched is what was posted. -/
theorem publish_accepted_shape (cfg : HubCfg) (M : Str → Str → Bool) (tok : Str → Option Claims) (r : PubReq)
    (u : Update) (h : publish cfg M tok r = .accepted u) :
    u.topics = r.topics ∧ u.priv = r.priv ∧ u.data = r.data ∧ u.id = r.id ∧ u.type = r.type ∧
    (if r.retryStr = [] then u.retry = 0 else parseUint64 r.retryStr = some u.retry) := by
  obtain ⟨c, ps, retry, -, -, -, -, hre, -, rfl⟩ := publish_accepted_iff.1 h
  refine ⟨rfl, rfl, rfl, rfl, rfl, ?_⟩
  split
  · next hr => rw [if_pos hr] at hre; exact (Option.some.inj hre).symm
  · next hr => rw [if_neg hr] at hre; exact hre

/-- The compatibility exception never lets a private update through. -/
theorem compat_never_private (cfg : HubCfg) (M : Str → Str → Bool) (tok : Str → Option Claims) (r : PubReq)
    (u : Update) (h : publish cfg M tok r = .accepted u) (hp : r.priv = true) :
    ∃ c ps, authorize cfg.minHeader cfg.minQuery tok r.auth cfg.publishOrigins = .ok (some c) ∧
      c.mercure.publish = some ps ∧ ∀ t ∈ r.topics, ∃ p ∈ ps, p = ['*'] ∨ M t p = true := by
  obtain ⟨⟨c, ps, h1, h2, h3⟩, _⟩ := (publish_ok_iff cfg M tok r).mp ⟨u, h⟩
  rcases h3 with h3 | ⟨_, h3⟩
  · exact ⟨c, ps, h1, h2, h3⟩
  · simp [hp] at h3

/-- A defined-but-empty claim authorises nothing (outside the compatibility mode). -/
theorem empty_claim_refused (cfg : HubCfg) (M : Str → Str → Bool) (tok : Str → Option Claims) (r : PubReq) (c : Claims)
    (ha : authorize cfg.minHeader cfg.minQuery tok r.auth cfg.publishOrigins = .ok (some c))
    (hc : c.mercure.publish = some []) (hcompat : cfg.compat7 = false) :
    ∃ s b, publish cfg M tok r = .refused s b := by
  cases hpub : publish cfg M tok r with
  | refused s b => exact ⟨s, b, rfl⟩
  | accepted u =>
    exfalso
    obtain ⟨⟨c', ps, h1, h2, h3⟩, _, hne, _⟩ := (publish_ok_iff cfg M tok r).mp ⟨u, hpub⟩
    rw [ha] at h1
    cases h1
    rw [hc] at h2
    cases h2
    rcases h3 with h3 | ⟨h3, _⟩
    · cases ht : r.topics with
      | nil => exact hne ht
      | cons t ts =>
        obtain ⟨p, hp, _⟩ := h3 t (by simp [ht])
        simp at hp
    · simp [hcompat] at h3

/-! non-vacuity -/
example : ∃ u, publish {} (fun t x => t == x) (fun _ => some { mercure := { publish := some [['a'], ['*']] } })
    { auth := { authHeaders := none, queryAuth := some ["0123456789012345678901234567890123456789k".toList], cookie := none, isPost := true, origin := [], referer := [], refererOrigin := none },
      formOk := true, topics := [['z'], ['a']], retryStr := ['7'], priv := true, data := [], id := [], type := [] } = .accepted u := by
  exact ⟨_, rfl⟩

/-- **The scope of a `literal{var}` claim, as bytes**: a publisher whose only claim parses to a literal followed by
    one simple variable may publish (privately, or without version-7 compatibility) on the claim text itself and on
    exactly the topics made of the literal followed by unreserved characters, commas and `%XX` triplets — never on
    one that continues with `/`, `?`, `#`, `:`, a space or a non-ASCII character. -/
theorem scope_of_literal_var_claim (sel p : Str) (v : Template.VarSpec) (hv : v.explode = false)
    (hp : Template.parse sel = some [.lit p, .expr .simple [v]]) (hs : sel ≠ ['*'])
    (hb : containsChar sel '{' = true) (t : Str) :
    canDispatch (matchSpec Template.oracle) [t] [sel] = true ↔ (t = sel ∨ ∃ w, t = p ++ w ∧ Template.ClassStr w) := by
  rw [canDispatch_iff]
  have hne : (sel == ['*']) = false := by simpa using hs
  simp only [List.all_cons, List.all_nil, List.any_cons, List.any_nil, Bool.and_true, Bool.or_false,
    matchSpec, matchUncached, Template.oracle, Template.valid, Template.expands, hp, hb, hne,
    Option.isSome_some, Bool.true_and, Bool.false_or]
  have h := Template.lit_var_matches_iff p v hv t
  unfold Template.matchTemplate
  rw [Bool.or_eq_true, beq_iff_eq, h]

/-- non-vacuity: the claim `https://example.com/books/{id}` has that shape -/
example : Template.parse "https://example.com/books/{id}".toList
      = some [.lit "https://example.com/books/".toList, .expr .simple [{ name := "id".toList }]]
    ∧ containsChar "https://example.com/books/{id}".toList '{' = true := ⟨Template.parse_books, by decide +kernel⟩

end Mercure.C02

#print axioms Mercure.C02.canDispatch_iff
#print axioms Mercure.C02.canDispatch_perm
#print axioms Mercure.C02.publish_ok_iff
#print axioms Mercure.C02.publish_refused_4xx
#print axioms Mercure.C02.publish_accepted_shape
#print axioms Mercure.C02.compat_never_private
#print axioms Mercure.C02.empty_claim_refused
#print axioms Mercure.C02.scope_of_literal_var_claim

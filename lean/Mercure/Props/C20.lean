import Mercure.Lemmas.HubEvents
/-
  C20 — Metrics equal what actually happened (at every quiescent point of every history).
-/
namespace Mercure.C20

variable (M : Str → Str → Bool) (tokP tokS : Str → Option Claims)
variable (cfg : HubCfg) (kind : Kind) (size cap : Nat)

/-- The gauge is the number of open streams, the subscribers counter the number of streams ever
    accepted, the updates counter the number of publish requests answered with success. -/
theorem metrics_eq_what_happened (ops : List HubOp) :
    let st := HubSt.reach M tokP tokS cfg kind size cap ops
    st.metrics.gauge = st.openStreams ∧ st.metrics.total = st.conns.length ∧ st.metrics.updates = st.okPubs :=
  Mercure.run_metrics ops (HubSt.init cfg kind size cap) ⟨rfl, rfl, rfl⟩

/-- "Open streams" is what it says: the accepted connections whose shutdown has not completed. -/
theorem open_streams_are_unfinished_connections (ops : List HubOp) (hf : FreshLabels ops) :
    let st := HubSt.reach M tokP tokS cfg kind size cap ops
    st.openStreams = ((st.conns.filter (fun c => !c.done)).length : Int) := by
  intro st
  refine run_count ops (HubSt.init cfg kind size cap) (fun _ => rfl) ?_
  have e : labels st = st.abs.conns.map (·.label) := by unfold labels HubSt.abs; rw [List.map_map]; rfl
  show (labels st).Nodup
  rw [e]
  exact labs_nodup_conns (reach_labels_nodup M tokP tokS cfg kind size cap ops hf)

/-- Rejected or failed publishes count for nothing (and change nothing at all). -/
theorem refused_publish_counts_nothing (st : HubSt) (r : PubReq)
    (h : (st.publish M tokP r).2.status ≠ 200) : (st.publish M tokP r).1 = st :=
  Mercure.publish_refused_noop M tokP st r h

/-- Rejected subscriptions count for nothing. -/
theorem refused_subscribe_counts_nothing (st : HubSt) (label : Nat) (r : SubReq)
    (h : (st.connect M tokS label r).2.status ≠ 200) :
    let st' := (st.connect M tokS label r).1
    st'.conns = st.conns ∧ st'.index = st.index ∧ st'.metrics = st.metrics ∧ st'.okPubs = st.okPubs ∧
    st'.openStreams = st.openStreams ∧ st'.db = st.db := by
  intro st'
  simp only [st', connect_refused_eq M tokS st label r h]
  exact ⟨trivial, trivial, trivial, trivial, trivial, trivial⟩

end Mercure.C20

#print axioms Mercure.C20.metrics_eq_what_happened
#print axioms Mercure.C20.open_streams_are_unfinished_connections
#print axioms Mercure.C20.refused_publish_counts_nothing
#print axioms Mercure.C20.refused_subscribe_counts_nothing

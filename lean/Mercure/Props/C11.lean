import Mercure.Lemmas.Selector
import Mercure.Lemmas.Template
import Mercure.Generated.Facts
/-
  C11 — Topic selector matching follows the protocol and caching never changes an answer.

  The store of /repo (`getRegexp_spec`, `matchMiss_spec`, `match_eq_spec`) is treated here; the key and
  shard lemmas it rests on are in Lemmas/Selector.lean.
-/
namespace Mercure.C11

/-- The protocol's relation, spelled out. -/
theorem matchSpec_iff (T : TemplateOracle) (t x : Str) :
    matchSpec T t x = true ↔
      x = ['*'] ∨ t = x ∨ (containsChar x '{' = true ∧ T.valid x = true ∧ T.expands x t = true) := by
  simp [matchSpec, matchUncached, Bool.and_eq_true, and_assoc, or_assoc]

theorem invalid_template_matches_only_itself (T : TemplateOracle) (t x : Str)
    (hx : T.valid x = false) (hs : x ≠ ['*']) : matchSpec T t x = true ↔ t = x := by
  simp [matchSpec_iff, hx, hs]

/-- Outside the two shortcuts of `match` the protocol's relation is the template test. -/
theorem matchSpec_eq_uncached {T : TemplateOracle} {topic sel : Str}
    (h0 : (sel == ['*'] || topic == sel) = false) : matchSpec T topic sel = matchUncached T topic sel := by
  simp only [Bool.or_eq_false_iff] at h0
  unfold matchSpec; rw [h0.1, h0.2]; rfl

/-- Concurrent evaluation (thread-modular form): a lookup's answer is a function of what its own
    `Get`s return; if every value a `Get` may return is a well-formed entry for its key — which every
    `Set` of every thread preserves (`Store.set_spec`, `getRegexp_spec`, `matchMiss_spec`) — the
    answer is the spec: a well-formed entry stored for the *same selector* under the lookup's key
    holds the protocol's answer. -/
theorem concurrent_hit_is_spec {T : TemplateOracle} {segs : List Seg} (hk : KeyOK segs)
    (topic sel : Str) (v : Bool) (h0 : (sel == ['*'] || topic == sel) = false)
    (hv : EntryOK T segs (mkKey segs sel topic) (.b sel v)) : v = matchSpec T topic sel := by
  rcases hv with ⟨s, t, hkey, hvv⟩ | ⟨s, _, hvv, _, _⟩
  · -- same selector (by validation), hence same topic (the key is injective in the topic)
    simp only [CVal.b.injEq] at hvv
    obtain ⟨rfl, rfl⟩ := hvv
    cases hk.inj_topic _ _ _ hkey
    exact (matchSpec_eq_uncached h0).symm
  · cases hvv

/-- getRegexp returns the selector itself (its compiled form) exactly when it is a valid template
    containing '{', whatever the cache holds, and keeps the cache well-formed. -/
theorem getRegexp_spec {T : TemplateOracle} {segs : List Seg} (hk : KeyOK segs) {st : Store}
    (hinv : st.Inv T segs) (sel : Str) :
    (Store.getRegexp T st sel).2.Inv T segs ∧
    (Store.getRegexp T st sel).1 =
      (if containsChar sel '{' && T.valid sel then some sel else none) := by
  unfold Store.getRegexp
  by_cases hc : containsChar sel '{' = true
  · rw [if_neg (by simp [hc])]
    by_cases he : st.enabled = true
    · rw [if_pos he]
      generalize hg : st.get (tKey sel) = g
      obtain ⟨r, st1⟩ := g
      obtain ⟨hinv1, hr⟩ := Store.get_spec hinv hg
      cases r with
      | none =>
        by_cases hv : T.valid sel = true
        · have := Store.set_spec (k := tKey sel) (v := .re sel) hinv1 (Or.inr ⟨sel, rfl, rfl, hv, hc⟩)
          simp only [hv, if_true]
          exact ⟨this, by simp [hc]⟩
        · simp only [hv]
          exact ⟨hinv1, by simp [hc]⟩
      | some v =>
        have hv := hr v rfl
        rcases hv with ⟨s, t, hkey, _⟩ | ⟨s, hkey, hvv, hvalid, _⟩
        · exact absurd hkey.symm (hk.ne_t s t sel)
        · have : s = sel := (tKey_inj hkey).symm
          subst this; subst hvv
          exact ⟨hinv1, by simp [hc, hvalid]⟩
    · rw [if_neg he]
      by_cases hv : T.valid sel = true
      · rw [if_pos hv]; exact ⟨hinv, by simp [hc, hv]⟩
      · rw [if_neg hv]; exact ⟨hinv, by simp [hc, hv]⟩
  · rw [if_pos (by simp [hc])]
    exact ⟨hinv, by simp [hc]⟩

/-- The miss path computes the uncached answer and keeps the cache well-formed. -/
theorem matchMiss_spec {T : TemplateOracle} {segs : List Seg} (hk : KeyOK segs) {st : Store}
    (hinv : st.Inv T segs) (topic sel : Str) (k : Option Str)
    (hkk : ∀ k', k = some k' → k' = mkKey segs sel topic) :
    (Store.matchMiss T st k topic sel).1 = matchUncached T topic sel ∧
    (Store.matchMiss T st k topic sel).2.Inv T segs := by
  unfold Store.matchMiss
  have hg := getRegexp_spec hk hinv sel
  generalize Store.getRegexp T st sel = g at hg ⊢
  obtain ⟨hinv2, hr⟩ := hg
  obtain ⟨r2, st2⟩ := g
  dsimp only at hr hinv2 ⊢
  unfold matchUncached
  by_cases hcv : (containsChar sel '{' && T.valid sel) = true
  · rw [if_pos hcv] at hr; subst hr
    have hans : T.expands sel topic = (containsChar sel '{' && T.valid sel && T.expands sel topic) := by
      rw [hcv, Bool.true_and]
    cases k with
    | none => exact ⟨hans, hinv2⟩
    | some k' =>
      exact ⟨hans, Store.set_spec hinv2 (Or.inl ⟨sel, topic, hkk k' rfl, by rw [hans]; rfl⟩)⟩
  · rw [if_neg hcv] at hr; subst hr
    rw [Bool.not_eq_true] at hcv
    exact ⟨by rw [hcv, Bool.false_and], hinv2⟩

/-- **Cache transparency, one lookup.** For a well-formed cache of any capacity and shard count
    (including the disabled cache), with hits validated against the selector and a usable key
    expression, the answer of `match` is the protocol's relation, and the cache stays well-formed. -/
theorem match_eq_spec {T : TemplateOracle} {segs : List Seg} (hk : KeyOK segs) {st : Store}
    (hinv : st.Inv T segs) (topic sel : Str) :
    (Store.match T segs true st topic sel).1 = matchSpec T topic sel ∧
    (Store.match T segs true st topic sel).2.Inv T segs := by
  unfold Store.match
  by_cases h0 : (sel == ['*'] || topic == sel) = true
  · rw [if_pos h0]
    refine ⟨?_, hinv⟩
    simp only [Bool.or_eq_true, beq_iff_eq] at h0
    simp [matchSpec, h0]
  · rw [if_neg h0, matchSpec_eq_uncached (Bool.not_eq_true _ ▸ h0)]
    by_cases he : st.enabled = true
    · rw [if_pos he]
      dsimp only
      rcases hg : st.get (mkKey segs sel topic) with ⟨r, st1⟩
      obtain ⟨hinv1, hr⟩ := Store.get_spec hinv hg
      have hmiss := matchMiss_spec hk hinv1 topic sel (some (mkKey segs sel topic))
        (by intro k' h; exact (Option.some.inj h).symm)
      -- everything but a hit validated for this selector takes the miss path
      rcases r with _ | (⟨s, v⟩ | s)
      · exact hmiss
      · dsimp only [Bool.not_true, Bool.false_or]
        split
        · next hs =>
          have hs : s = sel := eq_of_beq hs
          subst hs
          refine ⟨?_, hinv1⟩
          rw [concurrent_hit_is_spec hk topic s v (Bool.not_eq_true _ ▸ h0) (hr _ rfl),
            matchSpec_eq_uncached (Bool.not_eq_true _ ▸ h0)]
        · exact hmiss
      · exact hmiss
    · rw [if_neg he]
      exact matchMiss_spec hk hinv topic sel none (by intro k' h; cases h)

/-- A history of lookups, threading the store. -/
def runLookups (T : TemplateOracle) (segs : List Seg) : Store → List (Str × Str) → List Bool × Store
  | st, [] => ([], st)
  | st, (t, x) :: rest =>
    let r := Store.match T segs true st t x
    let rr := runLookups T segs r.2 rest
    (r.1 :: rr.1, rr.2)

theorem Store.new_inv (T : TemplateOracle) (segs : List Seg) (cap shards : Nat) :
    (Store.new cap shards).Inv T segs := by
  intro sh hsh e he
  unfold Store.new at hsh
  split at hsh
  · simp at hsh
  · simp only [List.mem_replicate] at hsh
    rw [hsh.2] at he; simp at he

/-- **Cache transparency, every history.** Whatever pairs were evaluated before, in whatever
    order, against a cache of any capacity (0 = disabled) and any number of shards:
    every answer is the protocol's relation. -/
theorem cache_transparent {T : TemplateOracle} {segs : List Seg} (hk : KeyOK segs)
    (st : Store) (hinv : st.Inv T segs) (ls : List (Str × Str)) :
    (runLookups T segs st ls).1 = ls.map (fun p => matchSpec T p.1 p.2) := by
  induction ls generalizing st with
  | nil => rfl
  | cons p rest ih =>
    obtain ⟨t, x⟩ := p
    have h := match_eq_spec hk hinv t x
    simp only [runLookups, List.map_cons, h.1, ih _ h.2]

/-- The obligations against the **regenerated** facts of /repo's `match`: the key expression is
    one of the shapes proved usable, and a hit is validated against the selector. -/
theorem repo_key_ok : KeyOK Facts.matchKeySegs ∧ Facts.matchHitValidated = true ∧
    Facts.matchKeyRecognised = true := by
  refine ⟨?_, by decide, by decide⟩
  have h : Facts.matchKeySegs = repoKeySegs ∨ Facts.matchKeySegs = goodKeySegs := by decide
  rcases h with h | h
  · rw [h]; exact repoKey_ok
  · rw [h]; exact goodKey_ok

/-- C11 for /repo's store: `Store.match` with the regenerated key expression (that hits are validated is the second
    part of `repo_key_ok`; `runLookups` takes it as given). -/
theorem C11_repo (T : TemplateOracle) (cap shards : Nat) (ls : List (Str × Str)) :
    (runLookups T Facts.matchKeySegs (Store.new cap shards) ls).1
      = ls.map (fun p => matchSpec T p.1 p.2) :=
  cache_transparent repo_key_ok.1 _ (Store.new_inv T _ cap shards) ls

/-! non-vacuity: a concrete store and history, with a hit -/
example : (runLookups { valid := fun _ => true, expands := fun s t => s.head? == t.head? }
    repoKeySegs (Store.new 1 1)
    [("a_c".toList, "a_{x}".toList), ("{x}_a_c".toList, "a".toList), ("a_c".toList, "a_{x}".toList)]).1
    = [true, false, true] := by decide +kernel

/-- A history of lookups against the *unvalidated* store (the code as found, F5). -/
def runLookupsUnvalidated (T : TemplateOracle) (segs : List Seg) : Store → List (Str × Str) → List Bool
  | _, [] => []
  | st, (t, x) :: rest =>
    let r := Store.match T segs false st t x
    r.1 :: runLookupsUnvalidated T segs r.2 rest

/-- The witness that the key expression `"m_" ++ sel ++ "_" ++ topic` *without* validation breaks
    the property (finding F5, repaired in /repo): the second answer comes out of the cache as `true`. -/
theorem C11_counterexample_unvalidated :
    runLookupsUnvalidated { valid := fun _ => true, expands := fun s t => s.head? == t.head? }
      repoKeySegs (Store.new 10000 256)
      [("a_c".toList, "a_{x}".toList), ("{x}_a_c".toList, "a".toList)] = [true, true]
    ∧ matchSpec { valid := fun _ => true, expands := fun s t => s.head? == t.head? }
        "{x}_a_c".toList "a".toList = false := by decide +kernel

/-! ### with the model of the template library (`Model/Template`) for the oracle -/

/-- With the Lean model of `uritemplate.New` / `Template.Regexp().MatchString` in the place of the
    oracle, the store of /repo answers the protocol's relation for that concrete library model —
    any cache size, any shard count, any history of lookups. -/
theorem C11_repo_concrete (cap shards : Nat) (ls : List (Str × Str)) :
    (runLookups Template.oracle Facts.matchKeySegs (Store.new cap shards) ls).1
      = ls.map (fun p => matchSpec Template.oracle p.1 p.2) :=
  C11_repo Template.oracle cap shards ls

/-- "…of which the topic is an expansion": for a template whose expressions are all `{name}` — the
    shape of nearly every selector in use — **every expansion matches**, whatever values the variables
    take (any scalar sequence, or undefined). -/
theorem expansion_matches (items : List Template.Item) (h : Template.Level1 items) (vals : Str → Option Str) :
    Template.matchTemplate items (Template.expand1 vals items) = true :=
  Template.expansion_matches items h vals

/-- and conversely for the commonest shape, `literal{var}`: it matches exactly the literal followed by
    unreserved characters, commas and `%XX` triplets — never a topic that continues with `/`, `?`, `#`,
    `:`, a space, a non-ASCII character or a stray `%`. -/
theorem lit_var_matches_iff (p : Str) (v : Template.VarSpec) (hv : v.explode = false) (t : Str) :
    Template.matchTemplate [.lit p, .expr .simple [v]] t = true ↔ ∃ w, t = p ++ w ∧ Template.ClassStr w :=
  Template.lit_var_matches_iff p v hv t

/-- a template without expression matches only itself -/
theorem literal_template_matches_itself (l t : Str) : Template.matchTemplate [.lit l] t = true ↔ t = l :=
  Template.matchItems_single_lit l t

/-! non-vacuity / sanity on concrete selectors (kernel evaluation of the parser; the matcher is defined
    by well-founded recursion and is exercised by the `tpl` family instead) -/
example : Template.parse "https://example.com/books/{id}".toList
    = some [.lit "https://example.com/books/".toList, .expr .simple [{ name := "id".toList }]] := Template.parse_books
example : Template.parse "{/a,b*}{?q:3}".toList
    = some [.expr .slash [{ name := ['a'] }, { name := ['b'], explode := true }], .expr .query [{ name := ['q'], maxlen := 3 }]] := by decide +kernel
example : Template.valid "{a:0}".toList = false ∧ Template.valid "{a..b}".toList = false ∧ Template.valid "a}".toList = false
    ∧ Template.valid "{!a}".toList = false ∧ Template.valid "%zz".toList = false ∧ Template.valid "{a".toList = false := by decide +kernel


end Mercure.C11

#print axioms Mercure.C11.matchSpec_iff
#print axioms Mercure.C11.invalid_template_matches_only_itself
#print axioms Mercure.C11.match_eq_spec
#print axioms Mercure.C11.cache_transparent
#print axioms Mercure.C11.repo_key_ok
#print axioms Mercure.C11.C11_repo
#print axioms Mercure.C11.concurrent_hit_is_spec
#print axioms Mercure.C11.C11_counterexample_unvalidated
#print axioms Mercure.C11.C11_repo_concrete
#print axioms Mercure.C11.expansion_matches
#print axioms Mercure.C11.lit_var_matches_iff
#print axioms Mercure.C11.literal_template_matches_itself

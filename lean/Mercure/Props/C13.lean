import Mercure.Lemmas.SysSafety
import Mercure.Generated.Facts
/-
  C13 — A slow or dead subscriber never blocks the hub and is cut off, not starved.
  Over the region-level model (Mercure.Sys: every interleaving of the synchronisation operations of
  Dispatch / AddSubscriber with history / Ready / Disconnect / Close / RemoveSubscriber / consumer),
  for the code in /repo (flags regenerated from the sources on every run).

  Partial by nature: "bounded time" is proved as "never waits for a consumer"; wall-clock bounds
  belong to the runtime.
-/
namespace Mercure.C13
open Mercure.Sys

/-- Parked before a channel send (`select{s.out<-|default}`: `sDispatch … 5` in the fan-out, `sReady … 3` in the flush
    of the live queue) a publisher always moves: whether a consumer reads or not, the send either succeeds or overflows at once. -/
theorem send_never_waits (σ : Sys) (i : Nat) (th : Thread) (hth : σ.threads[i]? = some th) (hp : σ.panic = none)
    (h : (∃ s u hist rest, th.stack = .sDispatch s u hist 5 :: rest) ∨ (∃ s q rest, th.stack = .sReady s 3 q :: rest)) :
    (step σ i).moved = true :=
  Safety.send_never_waits σ i th hth hp h

/-- A thread only ever waits for a lock that is held, for open read transactions
    (db.Close) or for a running Once — never for the state of a subscriber's buffer. -/
theorem waits_only_for_locks (σ : Sys) (i : Nat) (th : Thread) (hth : σ.threads[i]? = some th) (hp : σ.panic = none)
    (hne : th.stack ≠ []) (hw : (step σ i).moved = false) :
    σ.tr.writer.isSome ∨ σ.tr.onceRunning.isSome ∨ σ.tr.readers > 0 ∨
    (∃ b ∈ σ.subs, b.liveOwner.isSome ∨ b.outOwner.isSome) :=
  Safety.waits_only_for_locks σ i th hth hp hne hw

/-- **Cut off, not starved**: under every schedule, once every operation has returned a subscriber
    is flagged disconnected (overflow during live delivery, during replay or while queued before
    go-live; client; hub) exactly when its stream has been ended — its consumer, having read what
    was buffered, sees the end of the stream. -/
theorem overflow_ends_the_stream (kind : Kind) (size : Nat) (subs : List Sub) (ops : List Op)
    (wf : WellFormed subs ops) (sched : List Nat)
    (hq : (reach Flags.repaired kind size subs ops sched).allDone = true) :
    ∀ b ∈ (reach Flags.repaired kind size subs ops sched).subs, b.disconnected = b.outClosed :=
  Safety.flag_iff_closed_at_quiescence kind size subs ops wf sched hq

/-- The obligation against /repo: the synchronisation code is the repaired variant (regenerated). -/
theorem repo_flags : Facts.sysFlags = Flags.repaired := by decide

/-- Witness for the code as found (finding F6): one subscriber with a buffer of 1, two updates —
    the second overflows: flagged, never closed. -/
theorem C13_counterexample_found :
    let σ := reach Flags.found .local 0 [Sub.fresh [0] .none 1] [.add 0, .dispatch ⟨1, 0⟩, .dispatch ⟨2, 0⟩]
      ((List.replicate 12 0) ++ (List.replicate 12 1) ++ (List.replicate 12 2))
    σ.allDone = true ∧ (getSub σ 0).disconnected = true ∧ (getSub σ 0).outClosed = false := by
  decide +kernel

end Mercure.C13

#print axioms Mercure.C13.send_never_waits
#print axioms Mercure.C13.waits_only_for_locks
#print axioms Mercure.C13.overflow_ends_the_stream
#print axioms Mercure.C13.repo_flags
#print axioms Mercure.C13.C13_counterexample_found

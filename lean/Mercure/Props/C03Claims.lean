import Mercure.Lemmas.Claims
/-
  Property theorems about token-claims decoding (part of C03: only what a verifiable token *says* grants rights —
  here: what the bytes of its payload say, as the hub's decoding reads them).
-/
namespace Mercure.C03Claims
open Mercure.ClaimsJson

/-- **What an issuer writes is what the hub reads**: for all selector lists (any strings: quotes, backslashes,
    control characters, non-ASCII), nil or not, with or without the namespaced claim, with or without `exp`. -/
theorem claimsOf_encode (p s : Option (List Str)) (ns : Option (Option (List Str) × Option (List Str))) (e : Option Nat) :
    claimsOf (encode p s ns e) =
      some { mercure := { publish := p, subscribe := s, payload := [] },
             namespaced := ns.map fun (np, nsub) => { publish := np, subscribe := nsub, payload := [] },
             exp := e } :=
  Mercure.ClaimsJson.claimsOf_encode p s ns e

/-- … and the claim in effect is the namespaced one whenever it is present (validateJWT). -/
theorem effective_of_encode (p s : Option (List Str)) (ns : Option (Option (List Str) × Option (List Str))) (e : Option Nat) :
    ((claimsOf (encode p s ns e)).map Claims.effective).map (·.mercure) =
      some (match ns with
        | none => { publish := p, subscribe := s, payload := [] }
        | some (np, nsub) => { publish := np, subscribe := nsub, payload := [] }) :=
  Mercure.ClaimsJson.effective_of_encode p s ns e

/-- A selector list of the wrong kind (a string, a number, a boolean, an object where `[]string` is expected) is a type
    error of the decoder, which fails the decoding of the whole payload. -/
theorem wrong_kind_is_invalid (back : List Str) (v : JVal)
    (h : match v with | .null => False | .arr _ => False | _ => True) : storeStrings back v = none := by
  cases v <;> simp_all [storeStrings]

/-- … and so does an element that is not a string (or null). -/
theorem non_string_element_is_invalid (back : List Str) (pre : List Str) (x : JVal) (post : List JVal)
    (hx : match x with | .str _ => False | .null => False | _ => True) :
    storeStrings back (.arr (pre.map JVal.str ++ x :: post)) = none := by
  have h := storeElems_bad pre x post hx back
  cases hl : pre.map JVal.str ++ x :: post with
  | nil => simp at hl
  | cons y ys => rw [hl] at h; simp [storeStrings, h]

/-- Keys the claims type does not know are skipped: they cannot change what is decoded. -/
theorem unknown_key_ignored (k : Str) (v : JVal) (rest : List (Str × JVal)) (c : C)
    (h : selectField cFields k = none) : storeMembersC ((k, v) :: rest) c = storeMembersC rest c := by
  simp [storeMembersC, h]

/-- A fresh decoding of an array of strings is that list (nothing stale can appear without a `null` element). -/
theorem fresh_array_is_the_list (back : List Str) (l : List Str) (hl : l ≠ []) :
    (storeStrings back (.arr (l.map JVal.str))).map (·.1) = some (some l) := by
  cases l with
  | nil => exact absurd rfl hl
  | cons a as =>
    have h := storeElems_strs (a :: as) back
    simp only [List.map_cons] at h ⊢
    simp [storeStrings, h]

/-- The generic parser reads back what the compact serialiser writes, for every JSON value whose numbers are
    well-formed numerals. -/
theorem parseJSON_render (v : JVal) (h : WellFormedNums v) : parseJSON (render v) = some v :=
  Mercure.ClaimsJson.parseJSON_render v h

/-! witnesses (kernel evaluation) of the decoding rules the model takes from encoding/json -/

/-- a repeated key merges: the second "mercure" object only overwrites what it mentions -/
theorem repeated_key_merges :
    (claimsOf "{\"mercure\":{\"publish\":[\"a\"]},\"mercure\":{\"subscribe\":[\"b\"]}}".toList).map (·.mercure) =
      some { publish := some [['a']], subscribe := some [['b']], payload := [] } := by decide +kernel

/-- the quirk the correspondence check exposed: decoding a slice a second time, a `null` element keeps the
    value the first decoding left at that index -/
theorem null_element_keeps_stale_value :
    (claimsOf "{\"mercure\":{\"publish\":[\"a\",\"*\"]},\"mercure\":{\"publish\":[\"b\",null]}}".toList).map (·.mercure.publish) =
      some (some [['b'], ['*']]) := by decide +kernel

/-- case folding of keys, including U+017F for 's' -/
theorem folded_keys :
    (claimsOf "{\"MERCURE\":{\"publiſh\":[\"*\"]}}".toList).map (·.mercure.publish) = some (some [['*']]) := by decide +kernel

/-- the namespaced claim given as null is absent; the plain claim given as null is left as it was -/
theorem null_claims :
    (claimsOf "{\"mercure\":{\"publish\":[\"*\"]},\"mercure\":null,\"https://mercure.rocks/\":{\"publish\":[]},\"https://mercure.rocks/\":null}".toList)
      = some { mercure := { publish := some [['*']], subscribe := none, payload := [] }, namespaced := none, exp := none } := by
  decide +kernel

/-- a quoted number is a date; a non-number is a type error -/
theorem dates :
    (claimsOf "{\"exp\":\"1893456000\"}".toList).map (·.exp) = some (some 1893456000) ∧
    (claimsOf "{\"exp\":1.8934560009e9}".toList).map (·.exp) = some (some 1893456000) ∧
    claimsOf "{\"exp\":\"soon\"}".toList = none ∧ claimsOf "{\"exp\":true}".toList = none := by decide +kernel

end Mercure.C03Claims

#print axioms Mercure.C03Claims.claimsOf_encode
#print axioms Mercure.C03Claims.effective_of_encode
#print axioms Mercure.C03Claims.wrong_kind_is_invalid
#print axioms Mercure.C03Claims.non_string_element_is_invalid
#print axioms Mercure.C03Claims.unknown_key_ignored
#print axioms Mercure.C03Claims.fresh_array_is_the_list
#print axioms Mercure.C03Claims.parseJSON_render
#print axioms Mercure.C03Claims.repeated_key_merges
#print axioms Mercure.C03Claims.null_element_keeps_stale_value
#print axioms Mercure.C03Claims.folded_keys
#print axioms Mercure.C03Claims.null_claims
#print axioms Mercure.C03Claims.dates

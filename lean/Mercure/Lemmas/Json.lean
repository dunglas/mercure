import Mercure.Model.Json
/-
  Lemmas about Mercure.Model.Json — round trip of the stored representation of an update.
-/
namespace Mercure.Json

/-! ### what `unquoteBody` does with one written rune -/

theorem unquoteBody_lit (fuel : Nat) (c : Char) (rest : Str)
    (hc1 : c ≠ '"') (hc2 : c ≠ '\\') (h32 : 32 ≤ c.toNat) :
    unquoteBody (fuel + 1) (c :: rest) = (unquoteBody fuel rest).map (fun (v, r) => (c :: v, r)) := by
  -- every equation of `unquoteBody` but the last needs fuel 0, a quote, a backslash or a control character; the
  -- right-hand side is generalised to keep `simp_all` off it
  generalize hR : (unquoteBody fuel rest).map _ = R
  unfold unquoteBody
  split
  · simp_all
  · simp_all
  · simp_all
  · simp_all
  · simp_all
  · simp_all
  · rename_i h1 h2
    simp only [List.cons.injEq, Nat.succ_eq_add_one, Nat.add_right_cancel_iff] at h1 h2
    obtain ⟨rfl, rfl⟩ := h2
    subst h1
    rw [if_neg (by omega)]
    exact hR

/-- the two-character escapes `unquoteBody` knows: the letter after the backslash and the rune it stands for -/
def shortEscapes : List (Char × Char) :=
  [('"', '"'), ('\\', '\\'), ('/', '/'), ('b', Char.ofNat 8), ('f', Char.ofNat 12), ('n', '\n'), ('r', '\r'),
   ('t', '\t')]

theorem unquoteBody_short (fuel : Nat) (e c : Char) (tail : Str) (h : (e, c) ∈ shortEscapes) :
    unquoteBody (fuel + 1) ('\\' :: e :: tail) = (unquoteBody fuel tail).map (fun (v, r) => (c :: v, r)) := by
  simp only [shortEscapes, List.mem_cons, Prod.mk.injEq, List.not_mem_nil, or_false] at h
  rcases h with ⟨rfl, rfl⟩ | ⟨rfl, rfl⟩ | ⟨rfl, rfl⟩ | ⟨rfl, rfl⟩ | ⟨rfl, rfl⟩ | ⟨rfl, rfl⟩ | ⟨rfl, rfl⟩ | ⟨rfl, rfl⟩ <;>
    simp [unquoteBody]

theorem hexVal_hexDigit : ∀ k : Fin 16, hexVal (hexDigit k.val) = some k.val := by decide

theorem hex4Val_hex4 (n : Nat) (h : n < 65536) :
    hex4Val (hexDigit (n / 4096 % 16)) (hexDigit (n / 256 % 16)) (hexDigit (n / 16 % 16)) (hexDigit (n % 16))
      = some n := by
  have d (k : Nat) : hexVal (hexDigit (k % 16)) = some (k % 16) := hexVal_hexDigit ⟨k % 16, Nat.mod_lt _ (by decide)⟩
  simp only [hex4Val, d]
  congr 1
  omega

/-- `\uXXXX` for a rune of the basic plane (a `Char` is never a surrogate) -/
theorem unquoteBody_u (fuel : Nat) (c : Char) (tail : Str) (h : c.toNat < 65536) :
    unquoteBody (fuel + 1) ('\\' :: 'u' :: (hex4 c.toNat ++ tail))
      = (unquoteBody fuel tail).map (fun (v, r) => (c :: v, r)) := by
  have hs : isSurrogate c.toNat = false := by
    have hv : c.toNat < 0xd800 ∨ (0xdfff < c.toNat ∧ c.toNat < 0x110000) := c.valid
    simp only [isSurrogate, Bool.and_eq_false_iff, decide_eq_false_iff_not]; omega
  simp [hex4, unquoteBody, hex4Val_hex4 _ h, hs]

/-! ### spellings of one rune -/

/-- `Spells c w`: `w` is a way of writing the rune `c` inside a string literal that needs no raw control
    character: a two-character escape, `\uXXXX`, or the rune itself. What `escChar` writes is one
    (`escChar_spells`), and so is what `ClaimsJson.quote` writes; the round trip and the absence of control
    characters are facts about spellings. -/
inductive Spells (c : Char) : Str → Prop
  | short (e : Char) : (e, c) ∈ shortEscapes → Spells c ['\\', e]
  | u : c.toNat < 65536 → Spells c ('\\' :: 'u' :: hex4 c.toNat)
  | lit : c ≠ '"' → c ≠ '\\' → 32 ≤ c.toNat → Spells c [c]

theorem Spells.read_back {c : Char} {w : Str} (h : Spells c w) (fuel : Nat) (tail : Str) :
    unquoteBody (fuel + 1) (w ++ tail) = (unquoteBody fuel tail).map (fun (v, r) => (c :: v, r)) := by
  cases h with
  | short e he => exact unquoteBody_short fuel e c tail he
  | u hc => exact unquoteBody_u fuel c tail hc
  | lit h1 h2 h3 => exact unquoteBody_lit fuel c tail h1 h2 h3

theorem hexDigit_ge : ∀ k : Fin 16, 32 ≤ (hexDigit k.val).toNat := by decide

theorem Spells.no_control {c : Char} {w : Str} (h : Spells c w) : ∀ x ∈ w, 32 ≤ x.toNat := by
  have d (k : Nat) : 32 ≤ (hexDigit (k % 16)).toNat := hexDigit_ge ⟨k % 16, Nat.mod_lt _ (by decide)⟩
  cases h with
  | short e he =>
    have : ∀ p ∈ shortEscapes, 32 ≤ p.1.toNat := by decide
    simpa using this _ he
  | u _ => simp [hex4, d]
  | lit _ _ h3 => simpa using h3

theorem Spells.ne_nil {c : Char} {w : Str} (h : Spells c w) : w ≠ [] := by
  cases h <;> simp

/-- a string written rune by rune by `e`, then the closing quote: read back with one unit of fuel per rune -/
theorem unquoteBody_flatMap {e : Char → Str} (he : ∀ c, Spells c (e c)) (s : Str) :
    ∀ (fuel : Nat) (rest : Str), s.length + 1 ≤ fuel →
      unquoteBody fuel (s.flatMap e ++ '"' :: rest) = some (s, rest) := by
  induction s with
  | nil =>
    intro fuel rest h
    obtain ⟨f, rfl⟩ := Nat.exists_eq_add_one_of_ne_zero (Nat.ne_of_gt h)
    simp [unquoteBody]
  | cons c cs ih =>
    intro fuel rest h
    obtain ⟨f, rfl⟩ := Nat.exists_eq_add_one_of_ne_zero (Nat.ne_of_gt (Nat.lt_of_lt_of_le (Nat.succ_pos _) h))
    rw [List.flatMap_cons, List.append_assoc, (he c).read_back, ih f rest (by simpa using h)]
    rfl

theorem length_le_flatMap {e : Char → Str} (he : ∀ c, Spells c (e c)) (s : Str) :
    s.length ≤ (s.flatMap e).length := by
  induction s with
  | nil => simp
  | cons c cs ih =>
    have := List.length_pos_iff.2 (he c).ne_nil
    simp only [List.flatMap_cons, List.length_append, List.length_cons]; omega

/-- a string literal whose runes are written by `e` decodes to the string, whatever follows
    (`parseStr` takes the length of its input as fuel, and no spelling is empty) -/
theorem parseStr_flatMap {e : Char → Str} (he : ∀ c, Spells c (e c)) (s rest : Str) :
    parseStr ('"' :: (s.flatMap e ++ '"' :: rest)) = some (s, rest) := by
  rw [parseStr]
  apply unquoteBody_flatMap he
  have := length_le_flatMap he s
  simp only [List.length_append, List.length_cons]; omega

/-! ### `escChar` -/

theorem Spells.of_beq {c x : Char} {w : Str} (h : (c == x) = true) (hw : Spells x w) : Spells c w :=
  eq_of_beq h ▸ hw

theorem Spells.of_toNat {c : Char} {n : Nat} {w : Str} (h : (c.toNat == n) = true) (hw : Spells (Char.ofNat n) w) :
    Spells c w := by
  rw [← eq_of_beq h, Char.ofNat_toNat] at hw; exact hw

theorem escChar_spells (c : Char) : Spells c (escChar c) := by
  unfold escChar
  -- the `if` chain of `escChar`, one condition at a time (`split` simplifies the whole chain again at every step)
  refine iteInduction (fun h => .of_beq h (.short '"' (by decide))) fun h1 => ?_
  refine iteInduction (fun h => .of_beq h (.short '\\' (by decide))) fun h2 => ?_
  refine iteInduction (fun h => .of_toNat h (.short 'b' (by decide))) fun _ => ?_
  refine iteInduction (fun h => .of_toNat h (.short 'f' (by decide))) fun _ => ?_
  refine iteInduction (fun h => .of_beq h (.short 'n' (by decide))) fun _ => ?_
  refine iteInduction (fun h => .of_beq h (.short 'r' (by decide))) fun _ => ?_
  refine iteInduction (fun h => .of_beq h (.short 't' (by decide))) fun _ => ?_
  refine iteInduction (fun h8 => .u ?_) fun h8 => .lit (by simpa using h1) (by simpa using h2) ?_
  · simp only [Bool.or_eq_true, decide_eq_true_eq, beq_iff_eq] at h8
    rcases h8 with ((((h | rfl) | rfl) | rfl) | h) | h <;> first | omega | decide
  · simp only [Bool.or_eq_true, decide_eq_true_eq, not_or, Nat.not_lt] at h8
    exact h8.1.1.1.1.1

theorem escape_eq_flatMap (s : Str) : escape s = s.flatMap escChar := by
  induction s with
  | nil => rfl
  | cons c cs ih => rw [escape, ih, List.flatMap_cons]

theorem parseStr_str (s rest : Str) : parseStr (str s ++ rest) = some (s, rest) := by
  rw [str, escape_eq_flatMap, List.cons_append, List.append_assoc]
  exact parseStr_flatMap escChar_spells s rest

/-- the escaped form carries no raw control character -/
theorem escape_no_control (s : Str) : ∀ c ∈ escape s, 32 ≤ c.toNat := by
  intro x hx
  rw [escape_eq_flatMap, List.mem_flatMap] at hx
  obtain ⟨c, _, hc⟩ := hx
  exact (escChar_spells c).no_control x hc

/-! ### literals, booleans, numbers -/

theorem expect_append (p rest : Str) : expect p (p ++ rest) = some rest := by
  simp [expect]

theorem parseBool_bool_aux (b : Bool) (rest : Str) : parseBool (bool b ++ rest) = some (b, rest) := by
  cases b
  · simp only [bool, parseBool]
    simp [expect]
  · simp only [bool, parseBool, expect_append, if_true]

set_option linter.unusedVariables false in
theorem parseBool_bool (b : Bool) (rest : Str) (h : rest.head? ≠ none) : parseBool (bool b ++ rest) = some (b, rest) :=
  parseBool_bool_aux b rest

theorem takeWhile_digits_append (ds rest : Str) (hd : ∀ c ∈ ds, c.isDigit = true)
    (hr : ∀ c, rest.head? = some c → c.isDigit = false) :
    (ds ++ rest).takeWhile Char.isDigit = ds ∧ (ds ++ rest).dropWhile Char.isDigit = rest := by
  rw [List.takeWhile_append_of_pos hd, List.dropWhile_append_of_pos hd]
  cases rest with
  | nil => simp
  | cons r rs => simp [hr r rfl]

theorem toDigits_isDigit (n : Nat) : ∀ c ∈ Nat.toDigits 10 n, c.isDigit = true :=
  fun _ => Nat.isDigit_of_mem_toDigits (by decide) (by decide)

theorem head_toDigits_ne_zero (n : Nat) (h : 0 < n) : (Nat.toDigits 10 n).head? ≠ some '0' := by
  induction n using Nat.strongRecOn with
  | _ n ih =>
    rw [Nat.toDigits_eq_if (by decide)]
    split
    · rename_i hlt
      have : ∀ m : Fin 10, 0 < m.val → [Nat.digitChar m.val].head? ≠ some '0' := by decide
      exact this ⟨n, hlt⟩ h
    · rename_i hge
      have hne : Nat.toDigits 10 (n / 10) ≠ [] := Nat.toDigits_ne_nil
      have := ih (n / 10) (by omega) (by omega)
      cases hh : Nat.toDigits 10 (n / 10) with
      | nil => exact absurd hh hne
      | cons a as => rw [hh] at this; simpa using this

/-- the JSON number grammar's test for a leading zero passes on a decimal numeral -/
theorem toDigits_no_leading_zero (n : Nat) :
    ((Nat.toDigits 10 n).length > 1 && (Nat.toDigits 10 n).head? == some '0') = false := by
  cases n with
  | zero => simp
  | succ m =>
    have := head_toDigits_ne_zero (m + 1) (by omega)
    simp [this]

theorem toDigits_append_ne_minus (n : Nat) (rest r : Str) : Nat.toDigits 10 n ++ rest ≠ '-' :: r := by
  cases hds : Nat.toDigits 10 n with
  | nil => exact absurd hds Nat.toDigits_ne_nil
  | cons d tl =>
    have hd : d.isDigit = true := toDigits_isDigit n d (hds ▸ List.mem_cons_self ..)
    intro h
    rw [(List.cons.inj h).1] at hd
    revert hd; decide

theorem parseNat_toDigits (n : Nat) (h : n < 2 ^ 64) (rest : Str) (hr : ∀ c, rest.head? = some c → c.isDigit = false) :
    parseNat (Nat.toDigits 10 n ++ rest) = some (n, rest) := by
  obtain ⟨h1, h2⟩ := takeWhile_digits_append _ _ (toDigits_isDigit n) hr
  unfold parseNat
  simp only [h1, h2]
  have hne : Nat.toDigits 10 n ≠ [] := Nat.toDigits_ne_nil
  simp [hne, toDigits_no_leading_zero, Nat.ofDigitChars_ten_toDigits, h]

/-! ### arrays of strings -/

theorem length_strArrayBody (l : List Str) : l.length ≤ (strArrayBody l).length := by
  induction l with
  | nil => simp
  | cons x xs ih =>
    cases xs with
    | nil => simp [strArrayBody, str]
    | cons y ys => simp [strArrayBody, str] at ih ⊢; omega

theorem parseStrArrayBody_strArrayBody (x : Str) (xs : List Str) : ∀ (fuel : Nat) (rest : Str),
    (x :: xs).length ≤ fuel →
    parseStrArrayBody fuel (strArrayBody (x :: xs) ++ ']' :: rest) = some (x :: xs, rest) := by
  induction xs generalizing x with
  | nil =>
    intro fuel rest h
    obtain ⟨f, rfl⟩ : ∃ f, fuel = f + 1 := ⟨fuel - 1, by simp at h; omega⟩
    simp [strArrayBody, parseStrArrayBody, parseStr_str]
  | cons y ys ih =>
    intro fuel rest h
    obtain ⟨f, rfl⟩ : ∃ f, fuel = f + 1 := ⟨fuel - 1, by simp at h; omega⟩
    simp only [strArrayBody, List.append_assoc, parseStrArrayBody, parseStr_str, List.cons_append]
    rw [ih y f rest (by simpa using h)]
    rfl

theorem parseStrArray_strArray (l : List Str) (rest : Str) :
    parseStrArray (strArray l ++ rest) = some (l, rest) := by
  cases l with
  | nil =>
    show parseStrArray ("null".toList ++ rest) = some ([], rest)
    unfold parseStrArray
    rw [expect_append]
  | cons x xs =>
    have hlen := length_strArrayBody (x :: xs)
    have key := parseStrArrayBody_strArrayBody x xs ((strArrayBody (x :: xs) ++ ']' :: rest).length + 1) rest
      (by simp at hlen ⊢; omega)
    have hq : ∃ t, strArrayBody (x :: xs) = '"' :: t := by
      cases xs <;> simp [strArrayBody, str]
    obtain ⟨t, ht⟩ := hq
    rw [ht] at key
    simp [strArray, parseStrArray, expect, ht]
    simpa using key

/-- **Round trip**: what `dispatchHistory` decodes is what `Dispatch` stored. -/
theorem parseUpdate_update (d : Bool) (u : Update) (h : u.retry < 2 ^ 64) :
    parseUpdate (update d u) = some (d, u) := by
  have hn := parseNat_toDigits u.retry h ['}'] (by intro c hc; simp at hc; subst hc; decide)
  unfold parseUpdate update
  simp only [List.append_assoc]
  simp only [expect_append, Option.bind_eq_bind, Option.bind_some, parseStrArray_strArray,
    parseBool_bool_aux, parseStr_str, hn]
  cases u
  simp

end Mercure.Json

import Mercure.Model.Token
import Mercure.Lemmas.Claims
import Mercure.Lemmas.Form
/-
  Lemmas about Mercure.Model.Token — the issuer's side of the compact serialisation (`b64encode`, `headerJSON`,
  `mint`) and the fact that `derive` reads back what `mint` wrote.
-/
namespace Mercure.TokenBytes
open Mercure Mercure.ClaimsJson

/-! ### the issuer's side -/

/-- the RawURLEncoding alphabet -/
def b64char (n : Nat) : Char :=
  if n < 26 then Char.ofNat (n + 65)
  else if n < 52 then Char.ofNat (n + 71)
  else if n < 62 then Char.ofNat (n - 4)
  else if n = 62 then '-' else '_'

/-- the 6-bit values of a byte string: 3 bytes → 4 values, a final 1 → 2, a final 2 → 3 -/
def sextetsOf : List UInt8 → List Nat
  | a :: b :: c :: rest =>
    a.toNat / 4 :: (a.toNat % 4 * 16 + b.toNat / 16) :: (b.toNat % 16 * 4 + c.toNat / 64) :: c.toNat % 64 ::
      sextetsOf rest
  | [a, b] => [a.toNat / 4, a.toNat % 4 * 16 + b.toNat / 16, b.toNat % 16 * 4]
  | [a] => [a.toNat / 4, a.toNat % 4 * 16]
  | [] => []

/-- `base64.RawURLEncoding.EncodeToString` -/
def b64encode : List UInt8 → Str
  | a :: b :: c :: rest =>
    b64char (a.toNat / 4) :: b64char (a.toNat % 4 * 16 + b.toNat / 16) ::
      b64char (b.toNat % 16 * 4 + c.toNat / 64) :: b64char (c.toNat % 64) :: b64encode rest
  | [a, b] => [b64char (a.toNat / 4), b64char (a.toNat % 4 * 16 + b.toNat / 16), b64char (b.toNat % 16 * 4)]
  | [a] => [b64char (a.toNat / 4), b64char (a.toNat % 4 * 16)]
  | [] => []

/-- the header golang-jwt writes: `{"alg":"…","typ":"JWT"}` -/
def headerJSON (alg : Str) : Str := "{\"alg\":".toList ++ quote alg ++ ",\"typ\":\"JWT\"}".toList

/-- the compact serialisation: three base64url segments joined with '.' -/
def mint (alg payload : Str) (sig : List UInt8) : Str :=
  b64encode (utf8Bytes (headerJSON alg)) ++ '.' :: b64encode (utf8Bytes payload) ++ '.' :: b64encode sig

/-! ### base64 -/

theorem b64char_facts : ∀ n : Fin 64,
    b64val (b64char n.val) = some n.val ∧ b64char n.val ≠ '\r' ∧ b64char n.val ≠ '\n' ∧ b64char n.val ≠ '.' := by
  decide +kernel

theorem b64val_b64char (n : Nat) (h : n < 64) : b64val (b64char n) = some n := (b64char_facts ⟨n, h⟩).1

theorem sextets_b64char (n : Nat) (h : n < 64) (rest : Str) :
    sextets (b64char n :: rest) = (sextets rest).map (n :: ·) := by
  obtain ⟨h1, h2, h3, _⟩ := b64char_facts ⟨n, h⟩
  simp only at h1 h2 h3
  have e2 : (b64char n == '\r') = false := beq_eq_false_iff_ne.2 h2
  have e3 : (b64char n == '\n') = false := beq_eq_false_iff_ne.2 h3
  rw [sextets]
  simp only [e2, e3, Bool.or_self, Bool.false_eq_true, if_false, h1]

theorem b64encode_eq_map : ∀ bs : List UInt8, b64encode bs = (sextetsOf bs).map b64char
  | [] | [_] | [_, _] => rfl
  | a :: b :: c :: rest => by simp [b64encode, sextetsOf, b64encode_eq_map rest]

theorem sextetsOf_lt : ∀ bs : List UInt8, ∀ n ∈ sextetsOf bs, n < 64
  | [] => nofun
  | [a] => by
    have := a.toNat_lt
    simp only [sextetsOf, List.forall_mem_cons]
    exact ⟨by omega, by omega, nofun⟩
  | [a, b] => by
    have := a.toNat_lt
    have := b.toNat_lt
    simp only [sextetsOf, List.forall_mem_cons]
    exact ⟨by omega, by omega, by omega, nofun⟩
  | a :: b :: c :: rest => by
    have := a.toNat_lt
    have := b.toNat_lt
    have := c.toNat_lt
    simp only [sextetsOf, List.forall_mem_cons]
    exact ⟨by omega, by omega, by omega, by omega, sextetsOf_lt rest⟩

theorem sextets_map_b64char : ∀ l : List Nat, (∀ n ∈ l, n < 64) → sextets (l.map b64char) = some l
  | [], _ => by simp [sextets]
  | n :: l, h => by
    rw [List.forall_mem_cons] at h
    rw [List.map_cons, sextets_b64char n h.1, sextets_map_b64char l h.2]; rfl

theorem ofNat_eq (a : UInt8) (n : Nat) (h : n = a.toNat) : UInt8.ofNat n = a := by
  subst h; exact UInt8.ofNat_toNat

theorem bytesOfSextets_sextetsOf : ∀ bs : List UInt8, bytesOfSextets (sextetsOf bs) = some bs
  | [] => by simp [sextetsOf, bytesOfSextets]
  | [a] => by
    have := a.toNat_lt
    simp only [sextetsOf, bytesOfSextets]
    rw [ofNat_eq a _ (by omega)]
  | [a, b] => by
    have := a.toNat_lt
    have := b.toNat_lt
    simp only [sextetsOf, bytesOfSextets]
    rw [ofNat_eq a _ (by omega), ofNat_eq b _ (by omega)]
  | a :: b :: c :: rest => by
    have := a.toNat_lt
    have := b.toNat_lt
    have := c.toNat_lt
    simp only [sextetsOf, bytesOfSextets]
    rw [bytesOfSextets_sextetsOf rest, ofNat_eq a _ (by omega), ofNat_eq b _ (by omega), ofNat_eq c _ (by omega)]
    simp

theorem b64decode_b64encode (bs : List UInt8) : b64decode (b64encode bs) = some bs := by
  unfold b64decode
  rw [b64encode_eq_map, sextets_map_b64char _ (sextetsOf_lt bs), Option.bind_some, bytesOfSextets_sextetsOf]

theorem b64encode_no_dot (bs : List UInt8) : '.' ∉ b64encode bs := by
  rw [b64encode_eq_map]
  intro h
  obtain ⟨n, hn, e⟩ := List.mem_map.1 h
  exact (b64char_facts ⟨n, sextetsOf_lt bs n hn⟩).2.2.2 e

/-! ### strings.Split -/

theorem splitDots_go_append (a : Str) (ha : '.' ∉ a) : ∀ (rest cur : Str),
    splitDots.go (a ++ rest) cur = splitDots.go rest (a.reverse ++ cur) := by
  induction a with
  | nil => intro rest cur; rfl
  | cons x xs ih =>
    intro rest cur
    simp only [List.mem_cons, not_or] at ha
    have hx : (x == '.') = false := by
      simp only [beq_eq_false_iff_ne, ne_eq]; exact fun h => ha.1 h.symm
    simp only [List.cons_append, splitDots.go, hx, Bool.false_eq_true, if_false]
    rw [ih ha.2]
    simp only [List.reverse_cons, List.append_assoc, List.cons_append, List.nil_append]

theorem splitDots_go_dot (rest cur : Str) : splitDots.go ('.' :: rest) cur = cur.reverse :: splitDots.go rest [] := by
  simp [splitDots.go]

theorem splitDots_join (a b c : Str) (ha : '.' ∉ a) (hb : '.' ∉ b) (hc : '.' ∉ c) :
    splitDots (a ++ '.' :: b ++ '.' :: c) = [a, b, c] := by
  unfold splitDots
  have h : a ++ '.' :: b ++ '.' :: c = a ++ ('.' :: (b ++ ('.' :: (c ++ [])))) := by simp
  rw [h, splitDots_go_append a ha, splitDots_go_dot, splitDots_go_append b hb, splitDots_go_dot, splitDots_go_append c hc]
  simp [splitDots.go]

/-! ### the header -/

theorem qAlg : quote "alg".toList = "\"alg\"".toList := by decide +kernel
theorem qTyp : quote "typ".toList = "\"typ\"".toList := by decide +kernel
theorem qJWT : quote "JWT".toList = "\"JWT\"".toList := by decide +kernel

theorem headerJSON_eq (a : Str) :
    headerJSON a = render (.obj [("alg".toList, .str a), ("typ".toList, .str "JWT".toList)]) := by
  unfold headerJSON
  rw [render, renderMembers_cons_cons, renderMembers_one, render, render, qAlg, qTyp, qJWT]
  simp only [String.reduceToList, List.append_assoc, List.cons_append, List.nil_append]

theorem headerAlg_headerJSON (a : Str) : headerAlg (headerJSON a) = some a := by
  unfold headerAlg
  rw [headerJSON_eq, parseJSON_render _ (by simp [WellFormedNums, WellFormedMembers])]
  have hne : ("typ".toList == "alg".toList) = false := by decide +kernel
  simp only [List.reverse_cons, List.reverse_nil, List.nil_append, List.cons_append, List.find?, hne,
    beq_self_eq_true]

/-- the token layer alone: whatever payload text the hub's decoding accepts is what `derive` finds in the token
    minted around it -/
theorem derive_mint_of_decode (alg : String) (halg : alg ∈ knownAlgs) (payload : Str) (c : C)
    (hd : decode payload = some c) (sig : List UInt8) : derive (mint alg.toList payload sig) = .ok alg.toList c := by
  unfold derive mint
  rw [splitDots_join _ _ _ (b64encode_no_dot _) (b64encode_no_dot _) (b64encode_no_dot _)]
  simp only [b64decode_b64encode, Form.toStr_utf8Bytes, headerAlg_headerJSON, hd]
  have hk : knownAlgs.contains (String.ofList alg.toList) = true := by
    rw [String.ofList_toList]; simpa using halg
  rw [hk]; rfl

theorem derive_mint (alg : String) (halg : alg ∈ knownAlgs)
    (p s : Option (List Str)) (ns : Option (Option (List Str) × Option (List Str))) (e : Option Nat) (sig : List UInt8) :
    ∃ c, derive (mint alg.toList (encode p s ns e) sig) = .ok alg.toList c ∧
      ({ mercure := c.mercure.toClaim, namespaced := c.namespaced.map M.toClaim, exp := c.exp.map (·.1) } : Claims) =
        { mercure := { publish := p, subscribe := s, payload := [] },
          namespaced := ns.map fun (np, nsub) => { publish := np, subscribe := nsub, payload := [] },
          exp := e } := by
  have hc := claimsOf_encode p s ns e
  obtain ⟨c, hd, hc⟩ := Option.map_eq_some_iff.1 hc
  exact ⟨c, derive_mint_of_decode alg halg _ c hd sig, hc⟩

end Mercure.TokenBytes

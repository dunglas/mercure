import Mercure.Model.Event
/-
  Lemmas for C12 (SSE serialisation round-trip).
-/
namespace Mercure

/-! ### line splitting -/

def lines (s : Str) : List Str := (splitLines s).1

theorem splitLinesAux_acc (s cur : Str) (acc acc' : List Str) :
    (splitLinesAux s cur (acc ++ acc')).1 = acc'.reverse ++ (splitLinesAux s cur acc).1 := by
  induction s, cur, acc using splitLinesAux.induct generalizing acc' with
  | case1 cur acc => simp [splitLinesAux]
  | case2 cs cur acc ih => simpa [splitLinesAux] using ih acc'
  | case3 cs cur acc h ih =>
    rw [splitLinesAux, splitLinesAux]
    · simpa using ih acc'
    all_goals assumption
  | case4 cs cur acc ih => simpa [splitLinesAux] using ih acc'
  | case5 c cs cur acc h1 h2 h3 ih =>
    rw [splitLinesAux, splitLinesAux]
    · simpa using ih acc'
    all_goals assumption

theorem splitLinesAux_cons_other (c : Char) (cs cur : Str) (acc : List Str)
    (h1 : c ≠ '\r') (h2 : c ≠ '\n') :
    splitLinesAux (c :: cs) cur acc = splitLinesAux cs (c :: cur) acc := by
  rw [splitLinesAux]
  · intro cs1 h; exact absurd h h1
  · exact h1
  · exact h2

theorem splitLinesAux_line (line rest cur : Str) (acc : List Str) (h : noLineBreak line) :
    splitLinesAux (line ++ '\n' :: rest) cur acc
      = splitLinesAux rest [] ((cur.reverse ++ line) :: acc) := by
  induction line generalizing cur with
  | nil => simp [splitLinesAux]
  | cons c cs ih =>
    simp only [noLineBreak, List.mem_cons, not_or] at h
    rw [List.cons_append, splitLinesAux_cons_other _ _ _ _ (Ne.symm h.1.1) (Ne.symm h.2.1), ih _ ⟨h.1.2, h.2.2⟩]
    simp

theorem lines_line (line rest : Str) (h : noLineBreak line) :
    lines (line ++ '\n' :: rest) = line :: lines rest := by
  unfold lines splitLines
  rw [splitLinesAux_line _ _ _ _ h]
  have := splitLinesAux_acc rest [] [] [line]
  simpa using this

theorem lines_nil : lines [] = [] := rfl

/-! ### `processLine` on the lines the hub writes -/

theorem processLine_data (st : PSt) (v : Str) :
    processLine st ("data: ".toList ++ v) = { st with dataBuf := st.dataBuf ++ v ++ ['\n'] } := rfl
theorem processLine_id (st : PSt) (v : Str) :
    processLine st ("id: ".toList ++ v) = { st with lastId := v } := rfl
theorem processLine_event (st : PSt) (v : Str) :
    processLine st ("event: ".toList ++ v) = { st with typeBuf := v } := rfl
theorem processLine_retry (st : PSt) (v : Str) (h : allDigits v = true) :
    processLine st ("retry: ".toList ++ v) = { st with retry := some (digitsToNat v) } := by
  have : processLine st ("retry: ".toList ++ v)
      = if allDigits v then { st with retry := some (digitsToNat v) } else st := rfl
  rw [this, if_pos h]
theorem processLine_comment (st : PSt) : processLine st [':'] = st := rfl
theorem processLine_blank (st : PSt) (h : st.dataBuf ≠ []) : processLine st [] =
   { st with dataBuf := [], typeBuf := [], retry := none,
                out := { id := st.lastId, type := st.typeBuf, data := st.dataBuf.dropLast, retry := st.retry } :: st.out } := by
  have : processLine st [] = if st.dataBuf == [] then { st with dataBuf := [], typeBuf := [], retry := none } else
     { st with dataBuf := [], typeBuf := [], retry := none,
                out := { id := st.lastId, type := st.typeBuf, data := st.dataBuf.dropLast, retry := st.retry } :: st.out } := rfl
  rw [this, if_neg]
  simpa using h

theorem noLineBreak_append {a b : Str} (ha : noLineBreak a) (hb : noLineBreak b) :
    noLineBreak (a ++ b) := by
  unfold noLineBreak at *
  simp [ha.1, ha.2, hb.1, hb.2]

theorem noLineBreak_nil : noLineBreak [] := by simp [noLineBreak]

theorem dataSep_eq : dataSep = '\n' :: "data: ".toList := rfl

def dispatched (st : PSt) (d : Str) : PSt :=
  { st with dataBuf := [], typeBuf := [], retry := none,
            out := { id := st.lastId, type := st.typeBuf, data := d, retry := st.retry } :: st.out }

instance (s : Str) : Decidable (noLineBreak s) := by unfold noLineBreak; infer_instance

/-- One written line — a field name the hub writes and a break-free value — is one step of the parser. -/
theorem fold_line (pre v t : Str) (st : PSt) (hpre : noLineBreak pre) (hv : noLineBreak v) :
    (lines (pre ++ (v ++ '\n' :: t))).foldl processLine st
      = (lines t).foldl processLine (processLine st (pre ++ v)) := by
  rw [← List.append_assoc, lines_line _ _ (noLineBreak_append hpre hv), List.foldl_cons]

theorem replaceEOL_cons_other (c : Char) (cs : Str) (h1 : c ≠ '\r') (h2 : c ≠ '\n') :
    replaceEOL (c :: cs) = c :: replaceEOL cs := by
  rw [replaceEOL]
  · intro cs1 h; exact absurd h h1
  · exact h1
  · exact h2

theorem normaliseEOL_cons_other (c : Char) (cs : Str) (h1 : c ≠ '\r') :
    normaliseEOL (c :: cs) = c :: normaliseEOL cs := by
  rw [normaliseEOL]
  · intro cs1 h; exact absurd h h1
  · exact h1

/-- At a line end of the payload the data line written so far is complete and the next one starts empty. -/
theorem fold_data_break (cs pre rest : Str) (st : PSt) (hpre : noLineBreak pre)
    (ih : ∀ (pre : Str) (st : PSt), noLineBreak pre →
      (lines ("data: ".toList ++ (pre ++ (replaceEOL cs ++ '\n' :: '\n' :: rest)))).foldl processLine st
        = (lines rest).foldl processLine (dispatched st (st.dataBuf ++ pre ++ normaliseEOL cs))) :
    (lines ("data: ".toList ++ (pre ++ ((dataSep ++ replaceEOL cs) ++ '\n' :: '\n' :: rest)))).foldl processLine st
      = (lines rest).foldl processLine (dispatched st (st.dataBuf ++ pre ++ '\n' :: normaliseEOL cs)) := by
  simp only [dataSep_eq, List.cons_append, List.append_assoc]
  rw [fold_line _ _ _ _ (by decide) hpre, processLine_data]
  have := ih [] { st with dataBuf := st.dataBuf ++ pre ++ ['\n'] } noLineBreak_nil
  rw [List.nil_append] at this
  rw [this]
  simp [dispatched]

/-- The data field, line by line (`pre`: the part of the current line already read, free of line breaks). The cases of
    the induction are those of `replaceEOL`: end of the data, CR LF, a lone CR, LF, any other character. -/
theorem fold_data (d pre rest : Str) (st : PSt) (hpre : noLineBreak pre) :
    (lines ("data: ".toList ++ (pre ++ (replaceEOL d ++ '\n' :: '\n' :: rest)))).foldl processLine st
      = (lines rest).foldl processLine (dispatched st (st.dataBuf ++ pre ++ normaliseEOL d)) := by
  induction d using replaceEOL.induct generalizing pre st with
  | case1 =>
    rw [replaceEOL, List.nil_append, fold_line _ _ _ _ (by decide) hpre, processLine_data]
    have := lines_line [] rest noLineBreak_nil
    rw [List.nil_append] at this
    rw [this, List.foldl_cons, processLine_blank _ (by simp)]
    simp [dispatched, normaliseEOL]
  | case2 cs ih => rw [replaceEOL, normaliseEOL]; exact fold_data_break cs pre rest st hpre ih
  | case3 cs h ih =>
    rw [replaceEOL, normaliseEOL]
    · exact fold_data_break cs pre rest st hpre ih
    all_goals exact h
  | case4 cs ih =>
    rw [replaceEOL, normaliseEOL_cons_other _ _ (by decide)]; exact fold_data_break cs pre rest st hpre ih
  | case5 c cs h1 h2 h3 ih =>
    rw [replaceEOL_cons_other _ _ h2 h3, normaliseEOL_cons_other _ _ h2]
    have hpre' : noLineBreak (pre ++ [c]) := noLineBreak_append hpre
      ⟨fun h => h2 (List.mem_singleton.1 h).symm, fun h => h3 (List.mem_singleton.1 h).symm⟩
    have := ih (pre ++ [c]) st hpre'
    simp only [List.append_assoc, List.cons_append, List.nil_append] at this ⊢
    exact this

theorem allDigits_toDigits (n : Nat) : allDigits (Nat.toDigits 10 n) = true := by
  unfold allDigits
  simp only [Bool.and_eq_true, bne_iff_ne, ne_eq, List.all_eq_true]
  exact ⟨Nat.toDigits_ne_nil, fun c hc => Nat.isDigit_of_mem_toDigits (by decide) (by decide) hc⟩

theorem noLineBreak_toDigits (n : Nat) : noLineBreak (Nat.toDigits 10 n) := by
  constructor <;> intro h <;>
    exact absurd (Nat.isDigit_of_mem_toDigits (by decide) (by decide) h) (by decide)

theorem encode_append (e : Event) (rest : Str) :
    e.encode ++ rest =
      let y := "id: ".toList ++ (e.id ++ '\n' :: ("data: ".toList ++ ([] ++ (replaceEOL e.data ++ '\n' :: '\n' :: rest))))
      let x := if e.retry != 0 then "retry: ".toList ++ (Nat.toDigits 10 e.retry ++ '\n' :: y) else y
      if e.type != [] then "event: ".toList ++ (e.type ++ '\n' :: x) else x := by
  have hd : "\ndata: ".toList = '\n' :: "data: ".toList := rfl
  unfold Event.encode
  split <;> split <;>
    simp only [List.append_assoc, List.cons_append, List.nil_append, hd]

theorem fold_event (e : Event) (hid : noLineBreak e.id) (hty : noLineBreak e.type)
    (st : PSt) (h1 : st.dataBuf = []) (h2 : st.typeBuf = []) (h3 : st.retry = none) (rest : Str) :
    (lines (e.encode ++ rest)).foldl processLine st
      = (lines rest).foldl processLine
          { dataBuf := [], typeBuf := [], lastId := e.id, retry := none, out := e.expected :: st.out } := by
  obtain ⟨db, tb, lid, rt, out⟩ := st
  simp only at h1 h2 h3
  subst h1 h2 h3
  rw [encode_append]
  have hretry : ∀ st t, (lines ("retry: ".toList ++ (Nat.toDigits 10 e.retry ++ '\n' :: t))).foldl processLine st
      = (lines t).foldl processLine { st with retry := some e.retry } := by
    intro st t
    rw [fold_line _ _ _ _ (by decide) (noLineBreak_toDigits _), processLine_retry _ _ (allDigits_toDigits _)]
    simp [digitsToNat, Nat.ofDigitChars_ten_toDigits]
  by_cases ht : e.type = [] <;> by_cases hr : e.retry = 0 <;>
    simp only [ht, hr, bne_self_eq_false, Bool.false_eq_true, if_false, if_true, bne_iff_ne, ne_eq,
      not_false_eq_true] <;>
    simp only [fold_line "event: ".toList _ _ _ (by decide) hty, processLine_event, hretry,
      fold_line "id: ".toList _ _ _ (by decide) hid, processLine_id, fold_data _ _ _ _ noLineBreak_nil] <;>
    simp [dispatched, Event.expected, ht, hr]

theorem fold_comment (t : Str) (st : PSt) :
    (lines (':' :: '\n' :: t)).foldl processLine st = (lines t).foldl processLine st :=
  fold_line [':'] [] t st (by decide) noLineBreak_nil

theorem fold_stream (cs : List Chunk)
    (h : ∀ e ∈ Chunk.events cs, noLineBreak e.id ∧ noLineBreak e.type)
    (st : PSt) (h1 : st.dataBuf = []) (h2 : st.typeBuf = []) (h3 : st.retry = none) :
    ((lines (cs.flatMap Chunk.bytes)).foldl processLine st).out
      = ((Chunk.events cs).map Event.expected).reverse ++ st.out := by
  induction cs generalizing st with
  | nil => simp [Chunk.events, lines_nil]
  | cons c cs ih =>
    cases c with
    | comment =>
      rw [List.flatMap_cons]
      simp only [Chunk.bytes, Chunk.events, List.cons_append, List.nil_append] at h ⊢
      rw [fold_comment, ih h st h1 h2 h3]
    | event e =>
      rw [List.flatMap_cons]
      simp only [Chunk.bytes, Chunk.events] at h ⊢
      have he := h e (by simp)
      rw [fold_event e he.1 he.2 st h1 h2 h3, ih (fun e' he' => h e' (by simp [he'])) _ rfl rfl rfl]
      simp

/-- The whole stream: comments and events in any order decode to exactly the published events. -/
theorem parse_stream (cs : List Chunk)
    (h : ∀ e ∈ Chunk.events cs, noLineBreak e.id ∧ noLineBreak e.type) :
    parseSSE (cs.flatMap Chunk.bytes) = (Chunk.events cs).map Event.expected := by
  unfold parseSSE
  change (List.foldl processLine {} (lines _)).out.reverse = _
  rw [fold_stream cs h {} rfl rfl rfl]
  simp

/-- One event, any payload: the reference parser decodes the serialisation to exactly one event
    carrying the published id, type, retry and LF-normalised data. -/
theorem parse_encode (e : Event) (hid : noLineBreak e.id) (hty : noLineBreak e.type) :
    parseSSE e.encode = [e.expected] := by
  simpa [Chunk.bytes, Chunk.events] using
    parse_stream [.event e] (by simpa [Chunk.events] using ⟨hid, hty⟩)

end Mercure

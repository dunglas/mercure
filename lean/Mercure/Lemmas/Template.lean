import Mercure.Model.Template
/-
  Lemmas about Mercure.Model.Template — the Lean model of uritemplate.New + Template.Regexp().MatchString.
-/
namespace Mercure.Template

/-! ### unfolding equations of the mutually recursive matcher (defined by well-founded recursion) -/

theorem matchItems_nil (s : Str) : matchItems [] s = (s == []) := matchItems.eq_1 s

theorem matchItems_lit (l : Str) (rest : List Item) (s : Str) :
    matchItems (.lit l :: rest) s = (l.isPrefixOf s && matchItems rest (s.drop l.length)) :=
  matchItems.eq_2 s l rest

theorem matchItems_expr (op : Op) (vars : List VarSpec) (rest : List Item) (s : Str) :
    matchItems (.expr op vars :: rest) s =
      (matchItems rest s ||
       (op.first.isPrefixOf s &&
        matchBody op vars rest (firstNamed op vars)
          (match sepBound vars with | none => some 0 | some b => b) (s.drop op.first.length))) :=
  matchItems.eq_3 s op vars rest

theorem matchBody_nil (op : Op) (vars : List VarSpec) (rest : List Item) (named : Bool) (seps : Seps) :
    matchBody op vars rest named seps [] = matchItems rest [] :=
  matchBody.eq_1 op vars rest named seps

theorem matchBody_cons (op : Op) (vars : List VarSpec) (rest : List Item) (named : Bool) (seps : Seps)
    (c : Char) (cs : Str) :
    matchBody op vars rest named seps (c :: cs) =
      (matchItems rest (c :: cs) ||
       (inClass op.allowR named c && matchBody op vars rest named seps cs) ||
       (match c, cs with
        | '%', a :: b :: cs' => isHex a && isHex b && matchBody op vars rest named seps cs'
        | _, _ => false) ||
       (c == op.sep && seps.canUse && matchBody op vars rest (restNamed op vars) seps.use cs)) := by
  rw [matchBody.eq_def]
  rfl

theorem matchBody_pct (op : Op) (vars : List VarSpec) (rest : List Item) (named : Bool) (seps : Seps)
    (a b : Char) (cs : Str) :
    matchBody op vars rest named seps ('%' :: a :: b :: cs) =
      (matchItems rest ('%' :: a :: b :: cs) ||
       (inClass op.allowR named '%' && matchBody op vars rest named seps (a :: b :: cs)) ||
       (isHex a && isHex b && matchBody op vars rest named seps cs) ||
       ('%' == op.sep && seps.canUse && matchBody op vars rest (restNamed op vars) seps.use (a :: b :: cs))) :=
  matchBody.eq_2 op vars rest named seps a b cs

theorem matchItems_single_lit (l t : Str) : matchItems [.lit l] t = true ↔ t = l := by
  rw [matchItems_lit, matchItems_nil, Bool.and_eq_true, List.isPrefixOf_iff_prefix]
  constructor
  · rintro ⟨⟨r, rfl⟩, h2⟩
    rw [List.drop_left, beq_iff_eq] at h2
    rw [h2, List.append_nil]
  · rintro rfl
    simp

/-! ### class strings -/

theorem ClassStr.append {a b : Str} (ha : ClassStr a) (hb : ClassStr b) : ClassStr (a ++ b) := by
  induction ha with
  | nil => simpa using hb
  | char c w hc _ ih => exact ClassStr.char c _ hc ih
  | pct x y w hx hy _ ih => exact ClassStr.pct x y _ hx hy ih

theorem isHex_hexUpper : ∀ n, n < 16 → isHex (hexUpper n) = true := by decide

theorem classStr_pctBytes (bs : List UInt8) :
    ClassStr (bs.flatMap (fun b => ['%', hexUpper (b.toNat / 16), hexUpper (b.toNat % 16)])) := by
  induction bs with
  | nil => exact ClassStr.nil
  | cons b bs ih =>
    rw [List.flatMap_cons]
    have hb : b.toNat < 256 := UInt8.toNat_lt b
    exact ClassStr.pct _ _ _ (isHex_hexUpper _ (by omega)) (isHex_hexUpper _ (by omega)) ih

theorem classStr_escapeU (v : Str) : ClassStr (escapeU v) := by
  unfold escapeU
  induction v with
  | nil => exact ClassStr.nil
  | cons c cs ih =>
    rw [List.flatMap_cons]
    refine ClassStr.append ?_ ih
    split
    · next h => exact ClassStr.char c [] (Or.inl h) ClassStr.nil
    · exact classStr_pctBytes _

/-! ### the body of a simple expression consumes class strings -/

theorem inClass_simple_of_class (named : Bool) (c : Char) (h : isUnreserved c = true ∨ c = ',') :
    inClass Op.simple.allowR named c = true := by
  rcases h with h | rfl
  · simp [inClass, h]
  · simp [inClass, Op.allowR]

theorem matchBody_classStr_append (vars : List VarSpec) (rest : List Item) (named : Bool) (seps : Seps)
    {w : Str} (hw : ClassStr w) (s : Str) (hs : matchItems rest s = true) :
    matchBody .simple vars rest named seps (w ++ s) = true := by
  induction hw with
  | nil =>
    cases s with
    | nil => rw [List.append_nil, matchBody_nil]; exact hs
    | cons c cs => rw [List.nil_append, matchBody_cons, hs]; simp
  | char c w hc _ ih =>
    rw [List.cons_append, matchBody_cons, ih, inClass_simple_of_class named c hc]; simp
  | pct a b w ha hb _ ih =>
    show matchBody .simple vars rest named seps ('%' :: a :: b :: (w ++ s)) = true
    rw [matchBody_pct, ih, ha, hb]; simp

theorem simple_expr_matches (v : VarSpec) (rest : List Item)
    {w : Str} (hw : ClassStr w) (s : Str) (hs : matchItems rest s = true) :
    matchItems (.expr .simple [v] :: rest) (w ++ s) = true := by
  rw [matchItems_expr]
  simp [Op.first, matchBody_classStr_append _ _ _ _ hw s hs]

/-- **An expansion always matches** (level-1 templates): whatever values the variables take —
    any scalar sequence, or undefined — the expansion of the template is matched by the template. -/
theorem expansion_matches (items : List Item) (h : Level1 items) (vals : Str → Option Str) :
    matchItems items (expand1 vals items) = true := by
  induction items with
  | nil => simp [expand1, matchItems_nil]
  | cons it rest ih =>
    cases it with
    | lit l =>
      have hr : Level1 rest := h
      rw [matchItems_lit]
      simp only [expand1]
      rw [List.drop_left, ih hr]
      simp [List.isPrefixOf_iff_prefix]
    | expr op vars =>
      obtain ⟨rfl, ⟨n, rfl⟩, hr⟩ := h
      simp only [expand1]
      apply simple_expr_matches _ _ _ _ (ih hr)
      split
      · exact classStr_escapeU _
      · exact ClassStr.nil

/-! ### `literal{var}` -/

theorem inClass_ff (c : Char) : inClass false false c = true → (isUnreserved c = true ∨ c = ',') := by
  intro h
  simp [inClass] at h
  exact h.symm

/-- The converse for one simple variable at the end of a template. By induction on a bound for the length, not on the
    string: the `%XX` case drops three characters. -/
theorem body_classStr (v : VarSpec) :
    ∀ (n : Nat) (s : Str), s.length ≤ n → matchBody .simple [v] [] false (some 0) s = true → ClassStr s := by
  intro n
  induction n with
  | zero =>
    intro s hl _
    cases s with
    | nil => exact ClassStr.nil
    | cons c cs => simp at hl
  | succ n ih =>
    intro s hl h
    cases s with
    | nil => exact ClassStr.nil
    | cons c cs =>
      rw [matchBody_cons] at h
      simp only [matchItems_nil, Seps.canUse, Op.allowR] at h
      simp only [Bool.or_eq_true, Bool.and_eq_true] at h
      simp only [List.length_cons] at hl
      rcases h with ((h | h) | h) | h
      · simp at h
      · exact ClassStr.char c cs (inClass_ff c h.1) (ih cs (by omega) h.2)
      · split at h
        · next a b cs' =>
          simp only [Bool.and_eq_true] at h
          exact ClassStr.pct a b cs' h.1.1 h.1.2 (ih cs' (by simp only [List.length_cons] at hl; omega) h.2)
        · simp at h
      · simp at h

/-- **`literal{var}` matches exactly prefix + class string**: the topic must start with the literal and
    continue with unreserved characters, commas and `%XX` triplets only — no `/`, `?`, `#`, `:`, space,
    non-ASCII character or stray `%`. -/
theorem lit_var_matches_iff (p : Str) (v : VarSpec) (hv : v.explode = false) (t : Str) :
    matchItems [.lit p, .expr .simple [v]] t = true ↔ ∃ w, t = p ++ w ∧ ClassStr w := by
  constructor
  · intro h
    rw [matchItems_lit, Bool.and_eq_true, List.isPrefixOf_iff_prefix] at h
    obtain ⟨⟨w, rfl⟩, h2⟩ := h
    refine ⟨w, rfl, ?_⟩
    rw [List.drop_left, matchItems_expr, matchItems_nil] at h2
    have hsb : sepBound [v] = none := by simp [sepBound, hv]
    have hfn : firstNamed .simple [v] = false := by simp [firstNamed, Op.named, hv]
    rw [hsb, hfn] at h2
    simp only [Op.first, List.length_nil, List.drop_zero, Bool.or_eq_true, Bool.and_eq_true] at h2
    rcases h2 with h2 | h2
    · have : w = [] := by simpa using h2
      subst this; exact ClassStr.nil
    · exact body_classStr v _ w (Nat.le_refl _) h2.2
  · rintro ⟨w, rfl, hw⟩
    rw [matchItems_lit, List.drop_left]
    have := simple_expr_matches v [] hw [] (by simp [matchItems_nil])
    rw [List.append_nil] at this
    rw [this]
    simp [List.isPrefixOf_iff_prefix]

/-- The documentation's example selector, parsed once: kernel evaluation of the parser on 30 characters is
    dearer than everything else in Props/C02 and Props/C11 together, and both quote it. -/
theorem parse_books : parse "https://example.com/books/{id}".toList
    = some [.lit "https://example.com/books/".toList, .expr .simple [{ name := "id".toList }]] := by decide +kernel

end Mercure.Template

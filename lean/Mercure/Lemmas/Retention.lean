import Mercure.Model.Retention
import Mercure.Lemmas.Keyed
/-
  Lemmas for C10 (retention) and C08 (negotiation).
-/
namespace Mercure

/-! ### the retention machine -/

theorem foldl_inv {α β : Type} (f : β → α → β) (I : List α → β → Prop)
    (step : ∀ ps b a, I ps b → I (ps ++ [a]) (f b a)) (qs : List α) :
    ∀ ps b, I ps b → I (ps ++ qs) (qs.foldl f b) := by
  induction qs with
  | nil => intro ps b h; simpa using h
  | cons q qs ih => intro ps b h; simpa using ih (ps ++ [q]) (f b q) (step ps b q h)

/-- One publication, whatever the size in force: the bucket stays keyed, from a cut that only a cleanup moves. -/
theorem rPublish_keyed (size : Nat) (st : RSt) (q : Bool × Update) (k : Nat)
    (hs : st.seq = st.acc.length) (h : Keyed k st.acc st.db) :
    (rPublish size st q).seq = (rPublish size st q).acc.length ∧
    Keyed (if q.1 = true ∧ size ≠ 0 then max k (st.seq + 1 - size) else k)
      (rPublish size st q).acc (rPublish size st q).db := by
  have h1 := h.append q.2
  rw [← hs] at h1
  refine ⟨by simp [rPublish, hs], ?_⟩
  simp only [rPublish]
  by_cases hc : q.1 = true
  · have : Keyed _ _ (retain size (st.seq + 1) _) := h1.cleanup size (st.seq + 1) (by simp [hs])
    by_cases h0 : size = 0 <;> simpa [hc, h0] using this
  · simpa [hc] using h1

/-- The invariant of the retention machine after publishing `ps` at a fixed size: the cut is never beyond
    `length - size`, and is there whenever the last publication ran the cleanup. -/
def RInv (size : Nat) (ps : List (Bool × Update)) (st : RSt) : Prop :=
  st.acc = ps.map (·.2) ∧ st.seq = ps.length ∧
  ∃ k, Keyed k st.acc st.db ∧ (size = 0 → k = 0) ∧ k ≤ ps.length - size ∧
    (∀ q, ps.getLast? = some q → q.1 = true → 0 < size → k = ps.length - size)

theorem rRun_inv (size : Nat) (ps : List (Bool × Update)) : RInv size ps (rRun size ps) := by
  refine foldl_inv (rPublish size) (RInv size) ?_ ps [] {} ⟨rfl, rfl, 0, ⟨Nat.le_refl _, rfl, rfl⟩, by simp⟩
  rintro ps st q ⟨hacc, hseq, k, hk, hz, hle, _⟩
  have hs : st.seq = st.acc.length := by rw [hseq, hacc, List.length_map]
  refine ⟨by simp [rPublish, hacc], by simp [rPublish, hseq], _, (rPublish_keyed size st q k hs hk).2, ?_⟩
  -- what is left is arithmetic on the cut
  simp only [List.length_append, List.length_singleton, List.getLast?_concat, Option.some.injEq, forall_eq', hseq]
  split
  · rename_i h
    exact ⟨fun h0 => absurd h0 h.2, by omega, fun _ _ => by omega⟩
  · rename_i h
    exact ⟨hz, by omega, fun hq hp => absurd ⟨hq, by omega⟩ h⟩

/-- The same without the size: contiguity holds whatever size is in force at each publication. -/
theorem rRunV_inv (ps : List (Nat × Bool × Update)) :
    (rRunV ps).acc.length = ps.length ∧ ∃ k, Keyed k (rRunV ps).acc (rRunV ps).db := by
  have := foldl_inv (fun st p => rPublish p.1 st p.2)
    (fun ps st => st.seq = st.acc.length ∧ st.acc.length = ps.length ∧ ∃ k, Keyed k st.acc st.db) ?_ ps [] {}
    ⟨rfl, rfl, 0, Nat.le_refl _, rfl, rfl⟩
  · exact this.2
  · rintro ps st q ⟨hs, hl, k, hk⟩
    obtain ⟨h1, h2⟩ := rPublish_keyed q.1 st q.2 k hs hk
    exact ⟨h1, by simp [rPublish, hl], _, h2⟩

/-! ### negotiation (C08) -/

/-- Position of the first stored update with id `r`. -/
def firstIdx (db : List (Nat × Update)) (r : Str) : Option Nat := db.findIdx? (fun e => e.2.id == r)

theorem firstIdx_none_iff (db : List (Nat × Update)) (r : Str) :
    firstIdx db r = none ↔ r ∉ db.map (·.2.id) := by
  simp [firstIdx, List.findIdx?_eq_none_iff]

theorem firstIdx_some_of_mem (db : List (Nat × Update)) (r : Str) (hm : r ∈ db.map (·.2.id)) :
    ∃ i, firstIdx db r = some i := by
  cases hf : firstIdx db r with
  | some i => exact ⟨i, rfl⟩
  | none => exact absurd hm ((firstIdx_none_iff db r).mp hf)

theorem negotiate_go_eq (r : Str) (db : List (Nat × Update)) (last : Str) :
    negotiate.go r db last =
      match firstIdx db r with
      | some i => (r, (db.drop (i + 1)).map (·.2))
      | none => ((db.getLast?.map (·.2.id)).getD last, []) := by
  induction db generalizing last with
  | nil => rfl
  | cons e rest ih =>
    unfold negotiate.go
    rw [firstIdx, List.findIdx?_cons]
    by_cases hp : (e.2.id == r) = true
    · simp [hp]
    · simp only [hp, Bool.false_eq_true, if_false]
      rw [ih e.2.id, ← firstIdx]
      cases firstIdx rest r with
      | some j => rfl
      | none => rw [List.getLast?_cons]; cases rest.getLast? <;> rfl

theorem negotiate_found (db : List (Nat × Update)) (r : Str) (hr : r ≠ earliest) (i : Nat)
    (h : firstIdx db r = some i) : negotiate db r = (r, (db.drop (i + 1)).map (·.2)) := by
  rw [negotiate, if_neg (by simpa using hr), negotiate_go_eq, h]

theorem negotiate_not_found (db : List (Nat × Update)) (r : Str) (hr : r ≠ earliest)
    (h : firstIdx db r = none) :
    negotiate db r = ((db.getLast?.map (·.2.id)).getD earliest, []) := by
  rw [negotiate, if_neg (by simpa using hr), negotiate_go_eq, h]

theorem negotiate_fst_ne_of_not_mem (db : List (Nat × Update)) (r : Str) (hr : r ≠ earliest)
    (hm : r ∉ db.map (·.2.id)) : (negotiate db r).1 ≠ r ∧ (negotiate db r).2 = [] := by
  rw [negotiate_not_found db r hr ((firstIdx_none_iff db r).mpr hm)]
  refine ⟨?_, rfl⟩
  cases hl : db.getLast? with
  | none => exact fun h => hr h.symm
  | some e => exact fun h => hm (List.mem_map.mpr ⟨e, List.mem_of_getLast? hl, h⟩)

theorem firstIdx_of_nodup (db : List (Nat × Update)) (hn : (db.map (·.2.id)).Nodup)
    (i : Nat) (e : Nat × Update) (he : db[i]? = some e) : firstIdx db e.2.id = some i := by
  unfold firstIdx
  induction db generalizing i with
  | nil => simp at he
  | cons a rest ih =>
    rw [List.map_cons, List.nodup_cons] at hn
    rw [List.findIdx?_cons]
    cases i with
    | zero =>
      simp at he; subst he; simp
    | succ j =>
      simp only [List.getElem?_cons_succ] at he
      have hmem : e.2.id ∈ rest.map (·.2.id) :=
        List.mem_map.mpr ⟨e, List.mem_of_getElem? he, rfl⟩
      have hne : (a.2.id == e.2.id) = false := by
        apply beq_false_of_ne
        intro heq; rw [heq] at hn; exact hn.1 hmem
      rw [hne, ih hn.2 j he]
      simp

theorem rRun_db_published (size : Nat) (ps : List (Bool × Update)) {e : Nat × Update} (he : e ∈ (rRun size ps).db) :
    ∃ p ∈ ps, p.2 = e.2 := by
  obtain ⟨hacc, _, k, hk, _⟩ := rRun_inv size ps
  exact List.mem_map.1 (hacc ▸ hk.mem_acc he)

/-- C10/C07: negotiating from the id of a retained update replays exactly the accepted updates after it. -/
theorem rRun_replay (size : Nat) (ps : List (Bool × Update))
    (huniq : ((ps.map (·.2)).map (·.id)).Nodup) (hne : ∀ p ∈ ps, p.2.id ≠ earliest)
    (i : Nat) (e : Nat × Update) (he : (rRun size ps).db[i]? = some e) :
    negotiate (rRun size ps).db e.2.id = (e.2.id, (ps.map (·.2)).drop e.1) := by
  obtain ⟨hacc, _, k, ⟨hk, hsnd, hfst⟩, _⟩ := rRun_inv size ps
  rw [hacc] at hsnd hfst
  have hi : i < (rRun size ps).db.length := (List.getElem?_eq_some_iff.mp he).1
  have hlen : (rRun size ps).db.length = (ps.map (·.2)).length - k := by simpa using congrArg List.length hfst
  have hn : ((rRun size ps).db.map (·.2.id)).Nodup := by
    have : (rRun size ps).db.map (·.2.id) = (((ps.map (·.2)).drop k).map (·.id)) := by
      rw [← hsnd, List.map_map]; rfl
    rw [this, List.map_drop]
    exact List.Nodup.sublist (List.drop_sublist _ _) huniq
  have hkey : e.1 = k + 1 + i := by
    have h1 : ((rRun size ps).db.map (·.1))[i]? = some e.1 := by
      rw [List.getElem?_map, he]; rfl
    rw [hfst, List.getElem?_range' (by omega)] at h1
    simp at h1; omega
  have hr : e.2.id ≠ earliest := by
    obtain ⟨p, hp, hpe⟩ := rRun_db_published size ps (List.mem_of_getElem? he)
    rw [← hpe]; exact hne p hp
  rw [negotiate_found _ _ hr i (firstIdx_of_nodup _ hn i e he), List.map_drop, hsnd, List.drop_drop, hkey]
  congr 2; omega

end Mercure

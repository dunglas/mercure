import Mercure.Model.Sys
/-
  The transition interface of the region-level model (`Mercure.Sys`), repaired flags: the canonical effect of a step
  (`upd`), `step` and `admin` flattened into guarded transitions (`Trans`, `Adm`; `step_trans`, with `chanSite` for the
  two panics), the shape of stacks (`VS`; `AllF` for claims per frame), what a thread that does not move waits for
  (`waitsFor`), and the induction over reachable states (`WF`, `reach_inv`); for all flags, what a step does to the
  store and to `t.closed` (`step_dss`). An invariant `X` is proved through a lemma `X_upd` about `upd`, which opens
  with `getSub_updSub_cases` and `upd_threads_cases`; the two computed stacks, `flushStack` and `scanLoop`
  (`scanLoop_shape`), need a lemma of their own per invariant. The namespace is `Stream`: this file shares it with
  `SysStream`. The four files of invariants rest on this one; none of their invariants unfolds `step`
  (`Safety.after_close_rejected`, a fact about one step for all flags, does).
-/
namespace Mercure.Sys.Stream
open Mercure.Sys

/-! ### get / set -/

theorem zipIdx_map_getElem? {α : Type} (l : List α) (s : Nat) (f : α → α) (j : Nat) :
    (l.zipIdx.map (fun p => if p.2 == s then f p.1 else p.1))[j]? =
      (l[j]?).map (fun x => if j = s then f x else x) := by
  simp [List.getElem?_map, List.getElem?_zipIdx]
  cases l[j]? <;> simp

@[simp] theorem setSub_tr (σ : Sys) (s f) : (setSub σ s f).tr = σ.tr := rfl
@[simp] theorem setSub_threads (σ : Sys) (s f) : (setSub σ s f).threads = σ.threads := rfl
@[simp] theorem setSub_flags (σ : Sys) (s f) : (setSub σ s f).flags = σ.flags := rfl
@[simp] theorem setSub_panic (σ : Sys) (s f) : (setSub σ s f).panic = σ.panic := rfl
@[simp] theorem setTr_tr (σ : Sys) (f) : (setTr σ f).tr = f σ.tr := rfl
@[simp] theorem setTr_subs (σ : Sys) (f) : (setTr σ f).subs = σ.subs := rfl
@[simp] theorem setTr_threads (σ : Sys) (f) : (setTr σ f).threads = σ.threads := rfl
@[simp] theorem setTr_flags (σ : Sys) (f) : (setTr σ f).flags = σ.flags := rfl
@[simp] theorem setTr_panic (σ : Sys) (f) : (setTr σ f).panic = σ.panic := rfl
@[simp] theorem setThread_tr (σ : Sys) (i f) : (setThread σ i f).tr = σ.tr := rfl
@[simp] theorem setThread_subs (σ : Sys) (i f) : (setThread σ i f).subs = σ.subs := rfl
@[simp] theorem setThread_flags (σ : Sys) (i f) : (setThread σ i f).flags = σ.flags := rfl
@[simp] theorem setThread_panic (σ : Sys) (i f) : (setThread σ i f).panic = σ.panic := rfl
@[simp] theorem getSub_setTr (σ : Sys) (f s) : getSub (setTr σ f) s = getSub σ s := rfl
@[simp] theorem getSub_setThread (σ : Sys) (i f s) : getSub (setThread σ i f) s = getSub σ s := rfl

@[simp] theorem setSub_subs_length (σ : Sys) (s f) : (setSub σ s f).subs.length = σ.subs.length := by
  simp [setSub]

theorem getSub_setSub (σ : Sys) (s s' : Nat) (f : Sub → Sub) :
    getSub (setSub σ s f) s' = if s' = s ∧ s < σ.subs.length then f (getSub σ s) else getSub σ s' := by
  unfold getSub
  simp only [List.getD_eq_getElem?_getD, setSub, zipIdx_map_getElem?]
  by_cases h : s' = s
  · subst h; by_cases hs : s' < σ.subs.length <;> simp [hs]
  · simp [h]

theorem getSub_setSub_self (σ : Sys) (s : Nat) (f : Sub → Sub) (hs : s < σ.subs.length) :
    getSub (setSub σ s f) s = f (getSub σ s) := by
  rw [getSub_setSub, if_pos ⟨rfl, hs⟩]

theorem getSub_setSub_cases (σ : Sys) (s : Nat) (f : Sub → Sub) (s' : Nat) :
    getSub (setSub σ s f) s' = getSub σ s' ∨ (s' = s ∧ getSub (setSub σ s f) s' = f (getSub σ s)) := by
  rw [getSub_setSub]; split
  · exact .inr ⟨‹_ ∧ _›.1, rfl⟩
  · exact .inl rfl

theorem getSub_of_ge {σ : Sys} {s : Nat} (h : σ.subs.length ≤ s) : getSub σ s = { topics := [] } := by
  unfold getSub
  rw [List.getD_eq_getElem?_getD, List.getElem?_eq_none h]; rfl

theorem setThread_getElem? (σ : Sys) (i : Nat) (f : Thread → Thread) (j : Nat) :
    (setThread σ i f).threads[j]? = (σ.threads[j]?).map (fun x => if j = i then f x else x) := by
  simp only [setThread]; exact zipIdx_map_getElem? _ _ _ _

@[simp] theorem setThread_threads_length (σ : Sys) (i f) : (setThread σ i f).threads.length = σ.threads.length := by
  simp [setThread]

theorem mem_subs_iff_getSub {σ : Sys} {b : Sub} : b ∈ σ.subs ↔ ∃ s, s < σ.subs.length ∧ getSub σ s = b := by
  constructor
  · intro h
    obtain ⟨s, hs, rfl⟩ := List.getElem_of_mem h
    exact ⟨s, hs, by simp [getSub, List.getD_eq_getElem?_getD, List.getElem?_eq_getElem hs]⟩
  · rintro ⟨s, hs, rfl⟩
    simp [getSub, List.getD_eq_getElem?_getD, List.getElem?_eq_getElem hs]

theorem getSub_mem {σ : Sys} {s : Nat} (h : s < σ.subs.length) : getSub σ s ∈ σ.subs :=
  mem_subs_iff_getSub.2 ⟨s, h, rfl⟩

theorem mem_setSub {σ : Sys} {s : Nat} {f : Sub → Sub} {b : Sub} (h : b ∈ (setSub σ s f).subs) :
    b ∈ σ.subs ∨ (s < σ.subs.length ∧ b = f (getSub σ s)) := by
  obtain ⟨j, hj, rfl⟩ := mem_subs_iff_getSub.1 h
  rw [getSub_setSub]; split
  · exact .inr ⟨‹_ ∧ _›.2, rfl⟩
  · exact .inl (getSub_mem (by simpa using hj))

/-! ### the canonical effect of a step; `step` flattened -/

/-- Thread `i` replaces its stack (no administrative transitions yet). -/
def plain (σ : Sys) (i : Nat) (stack : List Frame) (last : Option Bool) (r : Option Ret) : Sys :=
  setThread σ i (fun t => retOf stack t r last)

/-- `Ready` with the queue `q` taken over: the next send, or the end of the flush (the model's `flush`). -/
def flushStack (s : Nat) (q : List Upd) (rest : List Frame) : List Frame :=
  match q with
  | [] => .sReady s 6 [] :: rest
  | _ :: _ => .sReady s 3 q :: rest

/-- `sl.MatchAny`: the indexed subscribers that match (the model's `recipients`). -/
def recipsOf (σ : Sys) (u : Upd) : List Nat := σ.tr.index.filter (fun s => (getSub σ s).matches u)

/-- The end of `db.View`: Bolt closes its read transaction; the local transport has none. -/
def endViewTr (t : Tr) : Tr :=
  match t.kind with
  | .bolt => { t with readers := t.readers - 1 }
  | Kind.«local» => t

def updSub (σ : Sys) : Option (Nat × (Sub → Sub)) → Sys
  | none => σ
  | some (s, f) => setSub σ s f

/-- Canonical form of a transition's effect: one subscriber update, one transport update, thread `i`'s new stack. -/
def upd (σ : Sys) (i : Nat) (sf : Option (Nat × (Sub → Sub))) (g : Tr → Tr) (st : List Frame)
    (l : Option Bool) (r : Option Ret) : Sys :=
  plain (setTr (updSub σ sf) g) i st l r

/-- The transitions of `step` under the repaired flags, flattened. A constructor at `pc + k` is the `| _ =>` branch of
    `step`'s match on the program counter: every counter from `k` on behaves alike, the unreachable ones included. -/
inductive Trans (σ : Sys) (i : Nat) : List Frame → Sys → Prop
  -- s.Dispatch
  | sD0a {s u h rest} : (getSub σ s).disconnected = true →
      Trans σ i (.sDispatch s u h 0 :: rest) (upd σ i none id rest (some false) none)
  | sD0b {s u h rest} : (getSub σ s).disconnected = false →
      Trans σ i (.sDispatch s u h 0 :: rest) (upd σ i none id (.sDispatch s u h 1 :: rest) none none)
  | sD1a {s u h rest} : h = false → (getSub σ s).ready = false →
      Trans σ i (.sDispatch s u h 1 :: rest) (upd σ i none id (.sDispatch s u h 2 :: rest) none none)
  | sD1b {s u h rest} : (h = true ∨ (getSub σ s).ready = true) →
      Trans σ i (.sDispatch s u h 1 :: rest) (upd σ i none id (.sDispatch s u h 3 :: rest) none none)
  | sD2a {s u h rest} : (getSub σ s).liveOwner = none → (getSub σ s).ready = false →
      Trans σ i (.sDispatch s u h 2 :: rest)
        (upd σ i (some (s, fun b => { b with liveQueue := b.liveQueue ++ [u] })) id rest (some true) none)
  | sD2b {s u h rest} : (getSub σ s).liveOwner = none → (getSub σ s).ready = true →
      Trans σ i (.sDispatch s u h 2 :: rest) (upd σ i none id (.sDispatch s u h 3 :: rest) none none)
  | sD3 {s u h rest} : (getSub σ s).outOwner = none →
      Trans σ i (.sDispatch s u h 3 :: rest)
        (upd σ i (some (s, fun b => { b with outOwner := some i })) id (.sDispatch s u h 4 :: rest) none none)
  | sD4a {s u h rest} : (getSub σ s).disconnected = true →
      Trans σ i (.sDispatch s u h 4 :: rest)
        (upd σ i (some (s, fun b => { b with outOwner := none })) id rest (some false) none)
  | sD4b {s u h rest} : (getSub σ s).disconnected = false →
      Trans σ i (.sDispatch s u h 4 :: rest) (upd σ i none id (.sDispatch s u h 5 :: rest) none none)
  | sD5a {s u h rest} : (getSub σ s).outClosed = false → (getSub σ s).out.length < (getSub σ s).cap →
      Trans σ i (.sDispatch s u h 5 :: rest)
        (upd σ i (some (s, fun b => { b with out := b.out ++ [u], enq := b.enq ++ [u], outOwner := none })) id rest (some true) none)
  | sD5b {s u h rest} : (getSub σ s).outClosed = false → ¬ (getSub σ s).out.length < (getSub σ s).cap →
      Trans σ i (.sDispatch s u h 5 :: rest) (upd σ i none id (.sDispatch s u h 6 :: rest) none none)
  | sD6 {s u h rest} :
      Trans σ i (.sDispatch s u h 6 :: rest)
        (upd σ i (some (s, fun b => { b with disconnected := true })) id (.sDispatch s u h 7 :: rest) none none)
  | sD7 {s u h rest pc} : (getSub σ s).outClosed = false →
      Trans σ i (.sDispatch s u h (pc + 7) :: rest)
        (upd σ i (some (s, fun b => { b with outClosed := true, outOwner := none })) id rest (some false) none)
  -- s.Ready
  | sR0 {s q rest} : (getSub σ s).liveOwner = none →
      Trans σ i (.sReady s 0 q :: rest)
        (upd σ i (some (s, fun b => { b with liveOwner := some i })) id (.sReady s 1 [] :: rest) none none)
  | sR1 {s q rest} : (getSub σ s).outOwner = none →
      Trans σ i (.sReady s 1 q :: rest)
        (upd σ i (some (s, fun b => { b with outOwner := some i })) id (.sReady s 2 (getSub σ s).liveQueue :: rest) none none)
  | sR2a {s q rest} : (getSub σ s).disconnected = true →
      Trans σ i (.sReady s 2 q :: rest)
        (upd σ i (some (s, fun b => { b with outOwner := none, liveOwner := none })) id rest none none)
  | sR2b {s q rest} : (getSub σ s).disconnected = false →
      Trans σ i (.sReady s 2 q :: rest) (upd σ i none id (flushStack s q rest) none none)
  | sR3nil {s rest} :
      Trans σ i (.sReady s 3 [] :: rest) (upd σ i none id (.sReady s 6 [] :: rest) none none)
  | sR3a {s u q' rest} : (getSub σ s).outClosed = false → (getSub σ s).out.length < (getSub σ s).cap →
      Trans σ i (.sReady s 3 (u :: q') :: rest)
        (upd σ i (some (s, fun b => { b with out := b.out ++ [u], enq := b.enq ++ [u] })) id (flushStack s q' rest) none none)
  | sR3b {s u q' rest} : (getSub σ s).outClosed = false → ¬ (getSub σ s).out.length < (getSub σ s).cap →
      Trans σ i (.sReady s 3 (u :: q') :: rest) (upd σ i none id (.sReady s 4 (u :: q') :: rest) none none)
  | sR4 {s q rest} :
      Trans σ i (.sReady s 4 q :: rest)
        (upd σ i (some (s, fun b => { b with disconnected := true })) id (.sReady s 5 q :: rest) none none)
  | sR5 {s q rest} : (getSub σ s).outClosed = false →
      Trans σ i (.sReady s 5 q :: rest)
        (upd σ i (some (s, fun b => { b with outClosed := true, outOwner := none, liveOwner := none })) id rest none none)
  | sR6 {s q rest pc} :
      Trans σ i (.sReady s (pc + 6) q :: rest)
        (upd σ i (some (s, fun b => { b with ready := true, outOwner := none, liveOwner := none })) id rest none none)
  -- s.Disconnect
  | sX0a {s rest} : (getSub σ s).disconnected = true →
      Trans σ i (.sDisconnect s 0 :: rest) (upd σ i none id rest none none)
  | sX0b {s rest} : (getSub σ s).disconnected = false →
      Trans σ i (.sDisconnect s 0 :: rest) (upd σ i none id (.sDisconnect s 1 :: rest) none none)
  | sX1 {s rest} : (getSub σ s).outOwner = none →
      Trans σ i (.sDisconnect s 1 :: rest)
        (upd σ i (some (s, fun b => { b with outOwner := some i })) id (.sDisconnect s 2 :: rest) none none)
  | sX2a {s rest} : (getSub σ s).disconnected = true →
      Trans σ i (.sDisconnect s 2 :: rest) (upd σ i (some (s, fun b => { b with outOwner := none })) id rest none none)
  | sX2b {s rest} : (getSub σ s).disconnected = false →
      Trans σ i (.sDisconnect s 2 :: rest) (upd σ i none id (.sDisconnect s 3 :: rest) none none)
  | sX3 {s rest} :
      Trans σ i (.sDisconnect s 3 :: rest)
        (upd σ i (some (s, fun b => { b with disconnected := true })) id (.sDisconnect s 4 :: rest) none none)
  | sX4 {s rest pc} : (getSub σ s).outClosed = false →
      Trans σ i (.sDisconnect s (pc + 4) :: rest)
        (upd σ i (some (s, fun b => { b with outClosed := true, outOwner := none })) id rest none none)
  -- t.Dispatch
  | tD0a {u rs rest} : σ.tr.closedCh = true →
      Trans σ i (.tDispatch u 0 rs :: rest) (upd σ i none id rest none (some .errClosed))
  | tD0b {u rs rest} : σ.tr.closedCh = false →
      Trans σ i (.tDispatch u 0 rs :: rest) (upd σ i none id (.tDispatch u 1 [] :: rest) none none)
  | tD1 {u rs rest} : σ.tr.writer = none →
      Trans σ i (.tDispatch u 1 rs :: rest)
        (upd σ i none (fun t => { t with writer := some i }) (.tDispatch u 2 [] :: rest) none none)
  | tD2ba {u rs rest} : σ.tr.kind = .bolt → σ.tr.dbClosed = true →
      Trans σ i (.tDispatch u 2 rs :: rest)
        (upd σ i none (fun t => { t with writer := none }) rest none (some .errDb))
  | tD2bb {u rs rest} : σ.tr.kind = .bolt → σ.tr.dbClosed = false →
      Trans σ i (.tDispatch u 2 rs :: rest)
        (upd σ i none (fun t => { t with seq := t.seq + 1, lastSeq := t.seq + 1, lastId := Resp.id u.id, bucket := true, db := retain t.size (t.seq + 1) (t.db ++ [(t.seq + 1, u)]), accepted := t.accepted ++ [u] }) (.tDispatch u 3 [] :: rest) none none)
  | tD3b {u rs rest pc} : σ.tr.kind = .bolt →
      Trans σ i (.tDispatch u (pc + 3) rs :: rest) (upd σ i none id (.tDispatch u 9 (recipsOf σ u) :: rest) none none)
  | tD2l {u rs rest pc} : σ.tr.kind = Kind.«local» →
      Trans σ i (.tDispatch u (pc + 2) rs :: rest)
        (upd σ i none (fun t => { t with accepted := t.accepted ++ [u] }) (.tDispatch u 9 (recipsOf σ u) :: rest) none none)
  -- t.AddSubscriber
  | tA0a {s ts sc rp rest} : σ.tr.closedCh = true →
      Trans σ i (.tAdd s 0 ts sc rp :: rest) (upd σ i none id rest none (some .errClosed))
  | tA0b {s ts sc rp rest} : σ.tr.closedCh = false →
      Trans σ i (.tAdd s 0 ts sc rp :: rest) (upd σ i none id (.tAdd s 1 0 [] .earliest :: rest) none none)
  | tA1 {s ts sc rp rest} : σ.tr.writer = none →
      Trans σ i (.tAdd s 1 ts sc rp :: rest)
        (upd σ i none (fun t => { t with writer := some i }) (.tAdd s 2 0 [] .earliest :: rest) none none)
  | tA2lr {s ts sc rp rest} : σ.tr.kind = Kind.«local» → (getSub σ s).req ≠ .none →
      Trans σ i (.tAdd s 2 ts sc rp :: rest)
        (upd σ i (some (s, fun b => { b with joinedAt := some σ.tr.accepted.length })) (fun t => { t with index := t.index ++ [s] }) (.tAdd s 4 0 [] .earliest :: rest) none none)
  | tA2ln {s ts sc rp rest} : σ.tr.kind = Kind.«local» → (getSub σ s).req = .none →
      Trans σ i (.tAdd s 2 ts sc rp :: rest)
        (upd σ i (some (s, fun b => { b with joinedAt := some σ.tr.accepted.length })) (fun t => { t with index := t.index ++ [s] }) (.sReady s 0 [] :: .tAdd s 7 0 [] .earliest :: rest) none none)
  | tA2br {s ts sc rp rest} : σ.tr.kind = .bolt → (getSub σ s).req ≠ .none →
      Trans σ i (.tAdd s 2 ts sc rp :: rest)
        (upd σ i (some (s, fun b => { b with joinedAt := some σ.tr.accepted.length })) (fun t => { t with index := t.index ++ [s], writer := none }) (.tAdd s 3 σ.tr.lastSeq [] .earliest :: rest) none none)
  | tA2bn {s ts sc rp rest} : σ.tr.kind = .bolt → (getSub σ s).req = .none →
      Trans σ i (.tAdd s 2 ts sc rp :: rest)
        (upd σ i (some (s, fun b => { b with joinedAt := some σ.tr.accepted.length })) (fun t => { t with index := t.index ++ [s], writer := none }) (.sReady s 0 [] :: .tAdd s 7 0 [] .earliest :: rest) none none)
  | tA3a {s ts sc rp rest} : σ.tr.dbClosed = true →
      Trans σ i (.tAdd s 3 ts sc rp :: rest) (upd σ i none id rest none (some .errDb))
  | tA3b {s ts sc rp rest} : σ.tr.dbClosed = false → σ.tr.bucket = false →
      Trans σ i (.tAdd s 3 ts sc rp :: rest)
        (upd σ i none (fun t => { t with readers := t.readers + 1 }) (.tAdd s 4 ts [] .earliest :: rest) none none)
  | tA3c {s ts sc rp rest} : σ.tr.dbClosed = false → σ.tr.bucket = true →
      Trans σ i (.tAdd s 3 ts sc rp :: rest)
        (upd σ i none (fun t => { t with readers := t.readers + 1 })
          (scanLoop σ.flags (getSub σ s) s ts ((scanFrom σ.tr.db (getSub σ s).req).2.length + 1)
            (scanFrom σ.tr.db (getSub σ s).req).2 (scanFrom σ.tr.db (getSub σ s).req).1 ++ rest) none none)
  | tA4 {s ts sc rp rest pc} :
      Trans σ i (.tAdd s (pc + 4) ts sc rp :: rest)
        (upd σ i (some (s, fun b => { b with resp := some rp })) endViewTr (.sReady s 0 [] :: .tAdd s 7 0 [] .earliest :: rest) none none)
  -- t.RemoveSubscriber
  | tM0a {s rest} : σ.tr.closedCh = true →
      Trans σ i (.tRemove s 0 :: rest) (upd σ i none id rest none (some .errClosed))
  | tM0b {s rest} : σ.tr.closedCh = false →
      Trans σ i (.tRemove s 0 :: rest) (upd σ i none id (.tRemove s 1 :: rest) none none)
  | tM1 {s rest} : σ.tr.writer = none →
      Trans σ i (.tRemove s 1 :: rest) (upd σ i none (fun t => { t with writer := some i }) (.tRemove s 2 :: rest) none none)
  | tM2 {s rest pc} :
      Trans σ i (.tRemove s (pc + 2) :: rest)
        (upd σ i none (fun t => { t with index := t.index.filter (· != s), writer := none }) rest none (some .ok))
  -- t.Close
  | tC0a {td rest} : σ.tr.onceDone = true →
      Trans σ i (.tClose 0 td :: rest) (upd σ i none id rest none (some .ok))
  | tC0b {td rest} : σ.tr.onceDone = false → σ.tr.onceRunning = none →
      Trans σ i (.tClose 0 td :: rest) (upd σ i none (fun t => { t with onceRunning := some i }) (.tClose 1 [] :: rest) none none)
  | tC1b {td rest} : σ.tr.kind = .bolt →
      Trans σ i (.tClose 1 td :: rest) (upd σ i none (fun t => { t with closedCh := true }) (.tClose 2 [] :: rest) none none)
  | tC2b {td rest} : σ.tr.kind = .bolt → σ.tr.writer = none →
      Trans σ i (.tClose 2 td :: rest) (upd σ i none (fun t => { t with writer := some i }) (.tClose 3 [] :: rest) none none)
  | tC3b {td rest} : σ.tr.kind = .bolt →
      Trans σ i (.tClose 3 td :: rest) (upd σ i none (fun t => { t with walked := t.index }) (.tClose 9 σ.tr.index :: rest) none none)
  | tC4b {td rest pc} : σ.tr.kind = .bolt → ¬ σ.tr.readers > 0 →
      Trans σ i (.tClose (pc + 4) td :: rest)
        (upd σ i none (fun t => { t with dbClosed := true, writer := none, onceRunning := none, onceDone := true }) rest none (some .ok))
  | tC1l {td rest} : σ.tr.kind = Kind.«local» → σ.tr.writer = none →
      Trans σ i (.tClose 1 td :: rest) (upd σ i none (fun t => { t with writer := some i }) (.tClose 2 [] :: rest) none none)
  | tC2l {td rest} : σ.tr.kind = Kind.«local» →
      Trans σ i (.tClose 2 td :: rest) (upd σ i none (fun t => { t with closedCh := true }) (.tClose 3 [] :: rest) none none)
  | tC3l {td rest pc} : σ.tr.kind = Kind.«local» →
      Trans σ i (.tClose (pc + 3) td :: rest) (upd σ i none (fun t => { t with walked := t.index }) (.tClose 9 σ.tr.index :: rest) none none)
  -- list / recv
  | tL {rest} : σ.tr.writer = none →
      Trans σ i (.tList :: rest) (upd σ i none id rest none (some (.listed σ.tr.lastId σ.tr.index)))
  | uRa {s u more rest} : (getSub σ s).out = u :: more →
      Trans σ i (.uRecv s :: rest)
        (upd σ i (some (s, fun b => { b with out := more, received := b.received ++ [u] })) id rest none (some (.got (some u) true)))
  | uRb {s rest} : (getSub σ s).out = [] →
      Trans σ i (.uRecv s :: rest) (upd σ i none id rest none (some (.got none (!(getSub σ s).outClosed))))

macro "tr_close" th:ident hth:ident hp:ident hst:ident : tactic => `(tactic| first
      | exact Or.inl rfl
      | exact Or.inr (Or.inl ⟨_, rfl⟩)
      | (right; right; refine ⟨$th, $hth, $hp, _, _, ?_, ?_, rfl⟩; omega; rw [$hst:ident]; constructor <;> simp_all; done)
      | (exfalso; simp_all; done))

/-- The subscriber on whose channel a frame is about to send, or which it is about to close. -/
def chanSite : Frame → Option Nat
  | .sDispatch s _ _ pc => if pc = 5 ∨ 7 ≤ pc then some s else none
  | .sReady s pc _ => if pc = 3 ∨ pc = 5 then some s else none
  | .sDisconnect s pc => if 4 ≤ pc then some s else none
  | _ => none

-- sealed: `rfl` fails at once where the new state is not `σ`
seal normalize in
/-- `step` under the repaired flags: nothing happens, or the thread is at a send / close site of a closed
    channel and the system panics, or it takes one flattened transition followed by administrative ones (the fuel `n`
    of `normalize` is `subs.length + 8` in the model; any positive one does, since one administrative transition
    leaves the thread parked: `adm_shape_parked`). -/
theorem step_trans {σ : Sys} {i : Nat} (hfl : σ.flags = Flags.repaired) :
    (step σ i).σ = σ ∨
      (∃ th fr rest s msg, σ.threads[i]? = some th ∧ th.stack = fr :: rest ∧ chanSite fr = some s ∧
        (getSub σ s).outClosed = true ∧ (step σ i).σ = { σ with panic := some msg }) ∨
      ∃ th, σ.threads[i]? = some th ∧ σ.panic = none ∧
        ∃ n σp, 0 < n ∧ Trans σ i th.stack σp ∧ (step σ i).σ = normalize i n σp := by
  have f : σ.flags.closeOnOverflow = true ∧ σ.flags.readyGuard = true ∧ σ.flags.disconnectRecheck = true ∧
      σ.flags.localMatchLocked = true ∧ σ.flags.cutBeforeDispatch = true := by rw [hfl]; exact ⟨rfl, rfl, rfl, rfl, rfl⟩
  -- the cases are made in `hs`, which holds `step`'s body once (the goal mentions `step σ i` three times)
  generalize hs : step σ i = o
  unfold step at hs
  by_cases hp : σ.panic = none
  case neg => left; rw [← hs, if_pos (Option.isSome_iff_ne_none.2 hp)]
  rcases Option.eq_none_or_eq_some σ.threads[i]? with hth | ⟨th, hth⟩
  · left; simp only [hp, hth] at hs; rw [← hs]; rfl
  cases hst : th.stack with
  | nil => left; simp only [hp, hth, hst] at hs; rw [← hs]; rfl
  | cons fr rest =>
  rcases fr with ⟨s, u, h, _|_|_|_|_|_|_|pc⟩ | ⟨s, _|_|_|_|_|_|pc, q⟩ | ⟨s, _|_|_|_|pc⟩ | ⟨u, _|_|_|pc, rs⟩ |
    ⟨s, _|_|_|_|pc, ts, sc, rp⟩ | ⟨s, _|_|pc⟩ | ⟨_|_|_|_|pc, td⟩ | _ | s
  all_goals simp only [hp, hth, hst, f, Option.isSome_none, Bool.false_eq_true, if_false, if_true] at hs
  -- `endViewTr` is the model's distinction by the kind of transport, made inside the transport update
  case tAdd.succ.succ.succ.succ =>
    subst hs
    refine Or.inr (Or.inr ⟨th, hth, hp, (setSub σ s fun b => { b with resp := some rp }).subs.length + 8, _, by omega,
      hst ▸ Trans.tA4 (pc := pc), ?_⟩)
    simp only [upd, updSub, plain, setTr, endViewTr, setSub_tr]
    cases σ.tr.kind <;> rfl
  -- wherever the kind of transport matters (`t.Dispatch`, `t.Close`, `sl.Add`)
  any_goals (rcases hk : σ.tr.kind with _ | _ <;> simp only [hk] at hs)
  all_goals repeat' split at hs
  all_goals subst hs
  all_goals first
    -- the thread waits
    | exact Or.inl rfl
    -- it takes the transition whose guard is what the conditions split off say (`simp_all` gets nothing else:
    -- it is slow on `hth` and on the flags)
    | (right; right; refine ⟨th, hth, hp, _, _, ?_, ?_, rfl⟩; omega; rw [hst]; clear hth hst hp hfl f
       constructor <;> simp_all; done)
    -- a send on, or the close of, a closed channel
    | exact Or.inr (Or.inl ⟨th, _, _, s, _, hth, hst, by simp [chanSite], ‹_›, rfl⟩)
    -- `sD1b`: its guard is a disjunction that `simp_all` decides once `hist` is known
    | (cases h <;> tr_close th hth hp hst)
    -- `constructor` would take `tC3b` here
    | (right; right; refine ⟨th, hth, hp, _, _, ?_, ?_, rfl⟩; omega; rw [hst]; exact Trans.tC3l (pc := 0) hk)

/-! ### projections of the canonical effect -/

@[simp] theorem plain_tr (σ : Sys) (i st l r) : (plain σ i st l r).tr = σ.tr := rfl
@[simp] theorem plain_subs (σ : Sys) (i st l r) : (plain σ i st l r).subs = σ.subs := rfl
@[simp] theorem plain_flags (σ : Sys) (i st l r) : (plain σ i st l r).flags = σ.flags := rfl
@[simp] theorem plain_panic (σ : Sys) (i st l r) : (plain σ i st l r).panic = σ.panic := rfl
@[simp] theorem getSub_plain (σ : Sys) (i st l r s) : getSub (plain σ i st l r) s = getSub σ s := rfl

@[simp] theorem updSub_tr (σ : Sys) (sf) : (updSub σ sf).tr = σ.tr := by
  cases sf with | none => rfl | some p => rfl
@[simp] theorem updSub_threads (σ : Sys) (sf) : (updSub σ sf).threads = σ.threads := by
  cases sf with | none => rfl | some p => rfl
@[simp] theorem updSub_flags (σ : Sys) (sf) : (updSub σ sf).flags = σ.flags := by
  cases sf with | none => rfl | some p => rfl
@[simp] theorem updSub_panic (σ : Sys) (sf) : (updSub σ sf).panic = σ.panic := by
  cases sf with | none => rfl | some p => rfl
@[simp] theorem updSub_subs_length (σ : Sys) (sf) : (updSub σ sf).subs.length = σ.subs.length := by
  cases sf with | none => rfl | some p => exact setSub_subs_length _ _ _
@[simp] theorem updSub_none (σ : Sys) : updSub σ none = σ := rfl
@[simp] theorem updSub_some (σ : Sys) (s f) : updSub σ (some (s, f)) = setSub σ s f := rfl

@[simp] theorem upd_tr (σ : Sys) (i sf g st l r) : (upd σ i sf g st l r).tr = g σ.tr := by
  simp [upd]
@[simp] theorem upd_subs (σ : Sys) (i sf g st l r) : (upd σ i sf g st l r).subs = (updSub σ sf).subs := rfl
@[simp] theorem upd_subs_length (σ : Sys) (i sf g st l r) : (upd σ i sf g st l r).subs.length = σ.subs.length :=
  updSub_subs_length _ _
@[simp] theorem upd_flags (σ : Sys) (i sf g st l r) : (upd σ i sf g st l r).flags = σ.flags := by
  simp [upd]
@[simp] theorem upd_panic (σ : Sys) (i sf g st l r) : (upd σ i sf g st l r).panic = σ.panic := by
  simp [upd]
@[simp] theorem getSub_upd (σ : Sys) (i sf g st l r s) : getSub (upd σ i sf g st l r) s = getSub (updSub σ sf) s := rfl

@[simp] theorem endViewTr_kind (t : Tr) : (endViewTr t).kind = t.kind := by unfold endViewTr; split <;> rfl
@[simp] theorem endViewTr_size (t : Tr) : (endViewTr t).size = t.size := by unfold endViewTr; split <;> rfl
@[simp] theorem endViewTr_db (t : Tr) : (endViewTr t).db = t.db := by unfold endViewTr; split <;> rfl
@[simp] theorem endViewTr_accepted (t : Tr) : (endViewTr t).accepted = t.accepted := by unfold endViewTr; split <;> rfl
@[simp] theorem endViewTr_seq (t : Tr) : (endViewTr t).seq = t.seq := by unfold endViewTr; split <;> rfl
@[simp] theorem endViewTr_lastSeq (t : Tr) : (endViewTr t).lastSeq = t.lastSeq := by unfold endViewTr; split <;> rfl
@[simp] theorem endViewTr_bucket (t : Tr) : (endViewTr t).bucket = t.bucket := by unfold endViewTr; split <;> rfl
@[simp] theorem endViewTr_writer (t : Tr) : (endViewTr t).writer = t.writer := by unfold endViewTr; split <;> rfl
@[simp] theorem endViewTr_onceRunning (t : Tr) : (endViewTr t).onceRunning = t.onceRunning := by unfold endViewTr; split <;> rfl
@[simp] theorem endViewTr_index (t : Tr) : (endViewTr t).index = t.index := by unfold endViewTr; split <;> rfl
@[simp] theorem endViewTr_closedCh (t : Tr) : (endViewTr t).closedCh = t.closedCh := by unfold endViewTr; split <;> rfl
@[simp] theorem endViewTr_dbClosed (t : Tr) : (endViewTr t).dbClosed = t.dbClosed := by unfold endViewTr; split <;> rfl

theorem getSub_upd_self {σ : Sys} {i s : Nat} {f g st l r} (hs : s < σ.subs.length) :
    getSub (upd σ i (some (s, f)) g st l r) s = f (getSub σ s) :=
  getSub_setSub_self σ s f hs

theorem upd_threads (σ : Sys) (i sf g st l r j) :
    (upd σ i sf g st l r).threads[j]? = (σ.threads[j]?).map (fun t => if j = i then retOf st t r l else t) := by
  simp only [upd, plain, setThread_getElem?, setTr_threads, updSub_threads]

@[simp] theorem retOf_stack (st t r l) : (retOf st t r l).stack = st := rfl
@[simp] theorem retOf_op (st t r l) : (retOf st t r l).op = t.op := rfl
@[simp] theorem retOf_last (st t r l) : (retOf st t r l).last = l := rfl

theorem upd_threads_self {σ : Sys} {i : Nat} {th : Thread} {sf g st l r} (hth : σ.threads[i]? = some th) :
    (upd σ i sf g st l r).threads[i]? = some (retOf st th r l) := by
  rw [upd_threads, hth]; simp

theorem upd_threads_other {σ : Sys} {i j : Nat} {sf g st l r} (hji : j ≠ i) :
    (upd σ i sf g st l r).threads[j]? = σ.threads[j]? := by
  rw [upd_threads]; cases σ.threads[j]? <;> simp [hji]

/-- A claim about every thread after a step of thread `i`: thread `i` itself, and the others, which are as they were. -/
theorem threads_step {σ σ' : Sys} {i : Nat} {P : Nat → Thread → Prop} (hoth : ∀ j, j ≠ i → σ'.threads[j]? = σ.threads[j]?)
    (hself : ∀ t, σ'.threads[i]? = some t → P i t) (hrest : ∀ j t, j ≠ i → σ.threads[j]? = some t → P j t) :
    ∀ j t, σ'.threads[j]? = some t → P j t := by
  intro j t hj
  by_cases hji : j = i
  · subst hji; exact hself t hj
  · exact hrest j t hji (hoth j hji ▸ hj)

theorem upd_threads_cases {σ : Sys} {i j : Nat} {th th' : Thread} {sf g st l r} (hth : σ.threads[i]? = some th)
    (hj : (upd σ i sf g st l r).threads[j]? = some th') :
    (j = i ∧ th' = retOf st th r l) ∨ σ.threads[j]? = some th' := by
  by_cases hji : j = i
  · subst hji; rw [upd_threads_self hth] at hj; exact .inl ⟨rfl, (Option.some.inj hj).symm⟩
  · rw [upd_threads_other hji] at hj; exact .inr hj

theorem upd_self {σ : Sys} {i : Nat} {th : Thread} {sf g st l r} {P : Thread → Prop} (hth : σ.threads[i]? = some th)
    (h : P (retOf st th r l)) : ∀ th', (upd σ i sf g st l r).threads[i]? = some th' → P th' := by
  intro th' h'
  rw [upd_threads_self hth] at h'
  cases h'
  exact h

/-- How every `X_upd` begins: a subscriber is as before, or it is the one updated. -/
theorem getSub_updSub_cases (σ : Sys) (sf : Option (Nat × (Sub → Sub))) (s' : Nat) :
    getSub (updSub σ sf) s' = getSub σ s' ∨
      ∃ s f, sf = some (s, f) ∧ s' = s ∧ getSub (updSub σ sf) s' = f (getSub σ s) := by
  match sf with
  | none => exact .inl rfl
  | some (s, f) => exact (getSub_setSub_cases σ s f s').imp_right fun h => ⟨s, f, rfl, h⟩

theorem getSub_upd_ne {σ : Sys} {i s0 : Nat} {f g st l r} {s' : Nat} (hne : s' ≠ s0) :
    getSub (upd σ i (some (s0, f)) g st l r) s' = getSub σ s' := by
  rw [getSub_upd, updSub_some, getSub_setSub, if_neg fun h => hne h.1]

theorem trans_upd {σ σp : Sys} {i : Nat} {st : List Frame} (h : Trans σ i st σp) :
    ∃ sf g st' l r, σp = upd σ i sf g st' l r := by
  cases h <;> exact ⟨_, _, _, _, _, rfl⟩

theorem trans_frame {σ σp : Sys} {i : Nat} {st : List Frame} (h : Trans σ i st σp) : σp.flags = σ.flags := by
  obtain ⟨sf, g, st', l, r, rfl⟩ := trans_upd h
  exact upd_flags ..

/-! ### `admin` flattened -/

/-- Administrative transitions under the repaired flags, flattened. -/
inductive Adm (σ : Sys) (i : Nat) (th : Thread) : Sys → Prop
  | d9c {u s rs rest} : th.stack = .tDispatch u 9 (s :: rs) :: rest →
      Adm σ i th (upd σ i none id (.sDispatch s u false 0 :: .tDispatch u 9 rs :: rest) none none)
  | d9nB {u rest} : σ.tr.kind = .bolt → th.stack = .tDispatch u 9 [] :: rest →
      Adm σ i th (upd σ i none (fun t => { t with writer := none }) rest none (some .ok))
  | d9nL {u rest} : σ.tr.kind = Kind.«local» → th.stack = .tDispatch u 9 [] :: rest →
      Adm σ i th (upd σ i none (fun t => { t with writer := none, lastId := Resp.id u.id }) rest none (some .ok))
  | a8n {s ts rp rest} : th.stack = .tAdd s 8 ts [] rp :: rest →
      Adm σ i th (upd σ i none id (.tAdd s 4 ts [] rp :: rest) none none)
  | a8f {s ts e more rp rest} : th.stack = .tAdd s 8 ts (e :: more) rp :: rest → th.last = some false →
      Adm σ i th (upd σ i none id (.tAdd s 4 ts [] rp :: rest) none none)
  | a8t {s ts e more rp rest} : th.stack = .tAdd s 8 ts (e :: more) rp :: rest → th.last ≠ some false →
      Adm σ i th (upd σ i none id (scanLoop σ.flags (getSub σ s) s ts (more.length + 1) more rp ++ rest) none none)
  | a7B {s ts sc rp rest} : σ.tr.kind = .bolt → th.stack = .tAdd s 7 ts sc rp :: rest →
      Adm σ i th (upd σ i none id rest none (some .ok))
  | a7L {s ts sc rp rest} : σ.tr.kind = Kind.«local» → th.stack = .tAdd s 7 ts sc rp :: rest →
      Adm σ i th (upd σ i none (fun t => { t with writer := none }) rest none (some .ok))
  | c9c {s more rest} : th.stack = .tClose 9 (s :: more) :: rest →
      Adm σ i th (upd σ i none id (.sDisconnect s 0 :: .tClose 9 more :: rest) none none)
  | c9nB {rest} : σ.tr.kind = .bolt → th.stack = .tClose 9 [] :: rest →
      Adm σ i th (upd σ i none id (.tClose 4 [] :: rest) none none)
  | c9nL {rest} : σ.tr.kind = Kind.«local» → th.stack = .tClose 9 [] :: rest →
      Adm σ i th (upd σ i none (fun t => { t with writer := none, onceRunning := none, onceDone := true }) rest none (some .ok))

/-- No administrative frame (a return continuation: `tDispatch 9`, `tAdd 7`/`8`, `tClose 9`) is on top. -/
def topParked : List Frame → Bool
  | .tDispatch _ 9 _ :: _ | .tAdd _ 8 _ _ _ :: _ | .tAdd _ 7 _ _ _ :: _ | .tClose 9 _ :: _ => false
  | _ => true

theorem admin_adm {σ σ' : Sys} {i : Nat} {th : Thread} (hfl : σ.flags = Flags.repaired)
    (hth : σ.threads[i]? = some th) (h : admin σ i = some σ') : Adm σ i th σ' := by
  have f : σ.flags.localMatchLocked = true ∧ σ.flags.cutBeforeDispatch = true := by rw [hfl]; exact ⟨rfl, rfl⟩
  unfold admin at h
  simp only [hth, f, beq_iff_eq, Bool.not_true, Bool.false_and, Bool.false_eq_true, if_false] at h
  split at h <;> repeat' split at h
  -- several constructors have the same effect up to unfolding `retOf` (`constructor` would take the first of them)
  all_goals first
    | contradiction
    | (cases h
       first
        | exact Adm.d9c ‹_› | exact Adm.d9nB ‹_› ‹_› | exact Adm.d9nL ‹_› ‹_› | exact Adm.a8n ‹_›
        | exact Adm.a8f ‹_› ‹_› | exact Adm.a8t ‹_› ‹_› | exact Adm.a7B ‹_› ‹_› | exact Adm.a7L ‹_› ‹_›
        | exact Adm.c9c ‹_› | exact Adm.c9nB ‹_› ‹_› | exact Adm.c9nL ‹_› ‹_›)

theorem admin_none_iff {σ : Sys} {i : Nat} {th : Thread} (hth : σ.threads[i]? = some th) :
    admin σ i = none ↔ topParked th.stack = true := by
  unfold admin
  simp only [hth]
  split <;> repeat' split
  -- an administrative frame on top: `admin` returns `some _` in every branch
  any_goals (simp [*, topParked]; done)

theorem adm_frame {σ σ' : Sys} {i : Nat} {th} (h : Adm σ i th σ') :
    σ'.subs = σ.subs ∧ σ'.flags = σ.flags := by
  cases h <;> exact ⟨rfl, upd_flags ..⟩

theorem adm_tr {σ σ' : Sys} {i : Nat} {th} (h : Adm σ i th σ') :
    σ'.tr.accepted = σ.tr.accepted ∧ σ'.tr.index = σ.tr.index ∧ σ'.tr.kind = σ.tr.kind := by
  cases h <;> exact ⟨rfl, rfl, rfl⟩

theorem adm_getSub {σ σ' : Sys} {i : Nat} {th} (h : Adm σ i th σ') (s : Nat) : getSub σ' s = getSub σ s := by
  unfold getSub; rw [(adm_frame h).1]

theorem normalize_inv {I : Sys → Prop} {i : Nat} (hI : ∀ σ σ', I σ → admin σ i = some σ' → I σ') :
    ∀ (n : Nat) (σ : Sys), I σ → I (normalize i n σ)
  | 0, _, h => h
  | n + 1, σ, h => by
    unfold normalize
    split
    · rename_i σ' ha; exact normalize_inv hI n σ' (hI σ σ' h ha)
    · exact h

/-! ### what a step does to the store and to the closed channel (any flags) -/

/-- Store, bucket sequence, retention size, and whether `t.closed` is closed. -/
def dss (t : Tr) : List (Nat × Upd) × Nat × Nat × Bool := (t.db, t.seq, t.size, t.closedCh)

theorem admin_dss {σ σ' : Sys} {i : Nat} (h : admin σ i = some σ') : dss σ'.tr = dss σ.tr := by
  unfold admin at h
  split at h
  · cases h
  simp only at h
  repeat' split at h
  all_goals cases h <;> rfl

theorem normalize_dss (i n : Nat) (σ : Sys) : dss (normalize i n σ).tr = dss σ.tr :=
  normalize_inv (I := fun σ' => dss σ'.tr = dss σ.tr) (fun _ _ h ha => (admin_dss ha).trans h) n σ rfl

/-- A step leaves these alone, or it is `db.Update` (one entry under the next sequence number, then retention), or it
    is `close(t.closed)`. (`P` is a variable so that the case analysis meets `step σ i` once, under an opaque head;
    the case splits are cheap because `cont`, which only adds the administrative transitions, stays a variable.) -/
theorem step_dss (σ : Sys) (i : Nat) {P : List (Nat × Upd) × Nat × Nat × Bool → Prop} (h0 : P (dss σ.tr))
    (h1 : ∀ u, P (retain σ.tr.size (σ.tr.seq + 1) (σ.tr.db ++ [(σ.tr.seq + 1, u)]), σ.tr.seq + 1, σ.tr.size, σ.tr.closedCh))
    (h2 : P (σ.tr.db, σ.tr.seq, σ.tr.size, true)) : P (dss (step σ i).σ.tr) := by
  unfold step
  by_cases hp : σ.panic.isSome = true
  · rw [if_pos hp]; exact h0
  rw [if_neg hp]
  split
  · exact h0
  split
  · exact h0
  extract_lets fl cont
  have hc : ∀ σ' stk l r, P (dss σ'.tr) → P (dss (cont σ' stk l r).σ.tr) := fun _ _ _ _ h' => by
    rw [normalize_dss]; exact h'
  clear_value cont
  dsimp only
  repeat' split
  all_goals first | exact h0 | (apply hc; first | exact h0 | exact h1 _ | exact h2)

/-! ### stack shapes -/

/-- Valid stacks of a thread running `op` (`n` = number of subscribers), including the transient
    shapes between a return and the end of the administrative transitions. -/
inductive VS (n : Nat) : Op → List Frame → Prop
  | done (op) : VS n op []
  | tD (u pc) : pc ≤ 3 → VS n (.dispatch u) [.tDispatch u pc []]
  | tD9 (u rs) : (∀ x ∈ rs, x < n) → VS n (.dispatch u) [.tDispatch u 9 rs]
  | tDs (u s pc rs) : s < n → (∀ x ∈ rs, x < n) → VS n (.dispatch u) [.sDispatch s u false pc, .tDispatch u 9 rs]
  | tA (s pc ts rp) : s < n → pc ≤ 4 → VS n (.add s) [.tAdd s pc ts [] rp]
  | tA7 (s) : s < n → VS n (.add s) [.tAdd s 7 0 [] .earliest]
  | tA8 (s ts sc rp) : s < n → VS n (.add s) [.tAdd s 8 ts sc rp]
  | tAs (s pc ts e more rp) : s < n → VS n (.add s) [.sDispatch s e.2 true pc, .tAdd s 8 ts (e :: more) rp]
  | tAr (s pc q) : s < n → VS n (.add s) [.sReady s pc q, .tAdd s 7 0 [] .earliest]
  | tM (s pc) : VS n (.remove s) [.tRemove s pc]
  | tC (pc) : VS n .close [.tClose pc []]
  | tC9 (more) : (∀ x ∈ more, x < n) → VS n .close [.tClose 9 more]
  | tCs (s pc more) : s < n → (∀ x ∈ more, x < n) → VS n .close [.sDisconnect s pc, .tClose 9 more]
  | tX (s pc) : s < n → VS n (.disconnect s) [.sDisconnect s pc]
  | tL : VS n .list [.tList]
  | uR (s) : s < n → VS n (.recv s) [.uRecv s]

structure Shape (σ : Sys) : Prop where
  vs : ∀ (i : Nat) (th : Thread), σ.threads[i]? = some th → VS σ.subs.length th.op th.stack
  idx : ∀ s ∈ σ.tr.index, s < σ.subs.length

def Parked (σ : Sys) : Prop := ∀ (i : Nat) (th : Thread), σ.threads[i]? = some th → topParked th.stack = true

/-- The two stacks the history scan can leave: done (`HistoryDispatched` next), or a replaying `s.Dispatch` on the scan. -/
theorem scanLoop_shape (fl : Flags) (sb : Sub) (s ts : Nat) (rp : Resp) : ∀ (fuel : Nat) (todo : List (Nat × Upd)),
    scanLoop fl sb s ts fuel todo rp = [.tAdd s 4 ts [] rp] ∨
    ∃ e more, scanLoop fl sb s ts fuel todo rp = [.sDispatch s e.2 true 0, .tAdd s 8 ts (e :: more) rp]
  | 0, [] | 0, _ :: _ | _ + 1, [] => Or.inl rfl
  | fuel + 1, e :: more => by
    unfold scanLoop
    split
    · exact Or.inl rfl
    · split
      · exact Or.inr ⟨e, more, rfl⟩
      · split
        · exact Or.inl rfl
        · exact scanLoop_shape fl sb s ts rp fuel more

theorem vs_scanLoop {n : Nat} (fl : Flags) (sb : Sub) (s ts : Nat) (rp : Resp) (fuel : Nat) (todo : List (Nat × Upd))
    (hs : s < n) : VS n (.add s) (scanLoop fl sb s ts fuel todo rp ++ []) := by
  rcases scanLoop_shape fl sb s ts rp fuel todo with h | ⟨e, more, h⟩ <;> rw [h]
  · exact VS.tA _ _ _ _ hs (by omega)
  · exact VS.tAs _ _ _ _ _ _ hs

theorem flushStack_eq (s : Nat) (q : List Upd) (rest : List Frame) :
    flushStack s q rest = .sReady s (if q.isEmpty then 6 else 3) q :: rest := by
  cases q <;> rfl

theorem shape_upd {σ : Sys} {i : Nat} {th : Thread} {sf g} {st : List Frame} {l r}
    (hS : Shape σ) (hth : σ.threads[i]? = some th)
    (h3 : ∀ s ∈ (g σ.tr).index, s < σ.subs.length)
    (hvs : VS σ.subs.length th.op st) : Shape (upd σ i sf g st l r) := by
  refine ⟨fun j th' hj => ?_, fun s hs => by rw [upd_subs_length]; rw [upd_tr] at hs; exact h3 s hs⟩
  rw [upd_subs_length]
  rcases upd_threads_cases hth hj with ⟨-, rfl⟩ | hj
  · exact hvs
  · exact hS.vs j _ hj

theorem mem_recipsOf {σ : Sys} {u : Upd} {x : Nat} (h : x ∈ recipsOf σ u) : x ∈ σ.tr.index := by
  unfold recipsOf at h; exact (List.mem_filter.1 h).1

/-! How a valid stack may change: its top frame may go; a subscriber-level frame is not bound to a program counter
    (nor `s.Ready` to a queue); a transport-level frame is alone on its stack and determines the operation, and only a registration calls
    `s.Ready`. -/

theorem VS.pop {n op fr rest} (h : VS n op (fr :: rest)) : VS n op rest := by
  cases h <;> first | exact .done _ | exact .tD9 _ _ ‹_› | exact .tA8 _ _ _ _ ‹_› | exact .tA7 _ ‹_› | exact .tC9 _ ‹_›

theorem VS.sD {n op s u hh pc rest} (h : VS n op (.sDispatch s u hh pc :: rest)) (pc') :
    VS n op (.sDispatch s u hh pc' :: rest) := by
  cases h <;> constructor <;> assumption

theorem VS.sR {n op s pc q rest} (h : VS n op (.sReady s pc q :: rest)) (pc' q') :
    VS n op (.sReady s pc' q' :: rest) := by
  cases h; constructor; assumption

theorem VS.sX {n op s pc rest} (h : VS n op (.sDisconnect s pc :: rest)) (pc') :
    VS n op (.sDisconnect s pc' :: rest) := by
  cases h <;> constructor <;> assumption

theorem VS.bottom {n op fr rest} (h : VS n op (fr :: rest)) :
    match fr with
    | .tDispatch u _ _ => rest = [] ∧ op = .dispatch u
    | .tAdd s _ _ _ _ => rest = [] ∧ op = .add s
    | .tRemove s _ => rest = [] ∧ op = .remove s
    | .tClose _ _ => rest = [] ∧ op = .close
    | .sReady s _ _ => op = .add s
    | _ => True := by
  cases h <;> first | exact ⟨rfl, rfl⟩ | rfl | trivial

/-- The subscriber a frame works on. -/
def subOf : Frame → Option Nat
  | .sDispatch s .. | .sReady s .. | .sDisconnect s _ | .tAdd s .. | .uRecv s => some s
  | _ => none

theorem VS.sub_lt {n : Nat} {op : Op} {fr : Frame} {rest : List Frame} (h : VS n op (fr :: rest)) :
    ∀ s, subOf fr = some s → s < n := by
  cases h <;> simp [subOf] <;> assumption

theorem VS.add_mem {n : Nat} {op : Op} {st : List Frame} {s pc ts sc rp} (h : VS n op st)
    (hm : Frame.tAdd s pc ts sc rp ∈ st) : op = .add s := by
  cases h <;> simp at hm
  all_goals obtain ⟨rfl, -⟩ := hm; rfl

/-- In a valid stack of a `Dispatch u` thread the top frame is `tDispatch u`, or `tDispatch u` is below it at pc 9. -/
theorem vs_dispatch {n : Nat} {u : Upd} {fr : Frame} {rest : List Frame} (h : VS n (.dispatch u) (fr :: rest)) :
    (∃ pc rs, fr = .tDispatch u pc rs) ∨ ∃ rs, Frame.tDispatch u 9 rs ∈ rest := by
  cases h <;> simp

theorem shape_trans {σ σp : Sys} {i : Nat} {th : Thread} (hS : Shape σ) (hth : σ.threads[i]? = some th)
    (h : Trans σ i th.stack σp) : Shape σp := by
  have hvs := hS.vs i th hth
  have hidx := hS.idx
  generalize hst : th.stack = st at h hvs
  cases h <;> refine shape_upd hS hth ?_ ?_
  all_goals first
    -- the index: as it was, or smaller, or with the `s` of `t.AddSubscriber s`
    | exact hidx
    | (intro x hx; simp at hx
       first | exact hidx x hx | exact hidx x hx.1 | (rcases hx with hx | rfl; exact hidx x hx; exact hvs.sub_lt _ rfl))
    -- the stack: popped, or a subscriber-level frame at another program counter
    | exact hvs.pop | exact hvs.sD _ | exact hvs.sR _ _ | exact hvs.sX _
    | (unfold flushStack; split <;> exact hvs.sR _ _)
    -- or a transport-level frame at another program counter, or what it called
    | (obtain ⟨rfl, ho⟩ := hvs.bottom
       rw [ho]
       first
        | exact vs_scanLoop _ _ _ _ _ _ _ (hvs.sub_lt _ rfl)
        | (constructor <;>
            first | omega | exact hvs.sub_lt _ rfl | (intro x hx; exact hidx x (mem_recipsOf hx))))

theorem adm_other {σ σ' : Sys} {i j : Nat} {th} (h : Adm σ i th σ') (hji : j ≠ i) :
    σ'.threads[j]? = σ.threads[j]? := by
  cases h <;> exact upd_threads_other hji

theorem trans_other {σ σp : Sys} {i j : Nat} {st} (h : Trans σ i st σp) (hji : j ≠ i) :
    σp.threads[j]? = σ.threads[j]? := by
  obtain ⟨sf, g, st', l, r, rfl⟩ := trans_upd h
  exact upd_threads_other hji

theorem adm_self {σ σ' : Sys} {i : Nat} {th} (hth : σ.threads[i]? = some th) (h : Adm σ i th σ') :
    ∃ th', σ'.threads[i]? = some th' ∧ th'.op = th.op := by
  cases h <;> exact ⟨_, upd_threads_self hth, rfl⟩

theorem trans_self {σ σp : Sys} {i : Nat} {th st} (hth : σ.threads[i]? = some th) (h : Trans σ i st σp) :
    ∃ th', σp.threads[i]? = some th' ∧ th'.op = th.op := by
  obtain ⟨sf, g, st', l, r, rfl⟩ := trans_upd h
  exact ⟨_, upd_threads_self hth, rfl⟩

theorem topParked_scanLoop (fl sb s ts rp fuel todo rest) :
    topParked (scanLoop fl sb s ts fuel todo rp ++ rest) = true := by
  rcases scanLoop_shape fl sb s ts rp fuel todo with h | ⟨e', m', h⟩ <;> rw [h] <;> rfl

/-- An administrative transition leaves valid stacks, and thread `i` parked. -/
theorem adm_shape_parked {σ σ' : Sys} {i : Nat} {th : Thread} (hS : Shape σ) (hth : σ.threads[i]? = some th)
    (h : Adm σ i th σ') : Shape σ' ∧ ∃ th', σ'.threads[i]? = some th' ∧ topParked th'.stack = true := by
  have hvs := hS.vs i th hth
  generalize hop : th.op = op at hvs
  cases h <;> (first | (rename_i hst; rw [hst] at hvs) | (rename_i hst _; rw [hst] at hvs)) <;> cases hvs <;>
    refine ⟨shape_upd hS hth hS.idx (hop ▸ ?_), _, upd_threads_self hth, ?_⟩
  all_goals first
    | rfl
    | exact topParked_scanLoop _ _ _ _ _ _ _ _
    | exact vs_scanLoop _ _ _ _ _ _ _ ‹_›
    | (constructor <;> first | assumption | omega)
    | (rename_i ha; simp only [List.mem_cons, forall_eq_or_imp] at ha; constructor <;> first | exact ha.1 | exact ha.2)

theorem shape_adm {σ σ' : Sys} {i : Nat} {th : Thread} (hS : Shape σ) (hth : σ.threads[i]? = some th)
    (h : Adm σ i th σ') : Shape σ' :=
  (adm_shape_parked hS hth h).1

theorem normalize_of_parked {σ : Sys} {i : Nat} {th : Thread} (hth : σ.threads[i]? = some th)
    (hp : topParked th.stack = true) (n : Nat) : normalize i n σ = σ := by
  cases n with
  | zero => rfl
  | succ n => unfold normalize; rw [(admin_none_iff hth).2 hp]

theorem normalize_parked {σ : Sys} {i : Nat} {th : Thread} (hS : Shape σ) (hfl : σ.flags = Flags.repaired)
    (hth : σ.threads[i]? = some th)
    (hoth : ∀ (j : Nat) (t : Thread), j ≠ i → σ.threads[j]? = some t → topParked t.stack = true) (n : Nat) :
    Parked (normalize i (n + 1) σ) := by
  unfold normalize
  split
  · rename_i σ' ha
    have hA := admin_adm hfl hth ha
    obtain ⟨th', h1, h2⟩ := (adm_shape_parked hS hth hA).2
    rw [normalize_of_parked h1 h2]
    exact threads_step (fun _ => adm_other hA) (fun t hj => by rw [h1] at hj; cases hj; exact h2) hoth
  · rename_i ha
    exact threads_step (fun _ _ => rfl) (fun t hj => by rw [hth] at hj; cases hj; exact (admin_none_iff hth).1 ha) hoth

/-! ### a claim about every frame of a stack -/

/-- `P` holds of every frame of a stack. By recursion on the stack, so that `simp only [AllF]` peels off the
    frames a transition names and leaves the claim about the untouched rest folded. -/
def AllF (P : Frame → Prop) : List Frame → Prop
  | [] => True
  | fr :: st => P fr ∧ AllF P st

theorem AllF_iff {P : Frame → Prop} : ∀ {st : List Frame}, AllF P st ↔ ∀ fr ∈ st, P fr
  | [] => by simp [AllF]
  | _ :: st => by simp [AllF, AllF_iff (st := st)]

theorem AllF.imp {P Q : Frame → Prop} (h : ∀ fr, P fr → Q fr) {st : List Frame} (hp : AllF P st) : AllF Q st :=
  AllF_iff.2 fun fr hfr => h fr (AllF_iff.1 hp fr hfr)

theorem AllF_flushStack {P : Frame → Prop} {s : Nat} {q : List Upd} {rest : List Frame}
    (h3 : P (.sReady s 3 q)) (h6 : P (.sReady s 6 [])) (hr : AllF P rest) : AllF P (flushStack s q rest) := by
  unfold flushStack; split <;> exact ⟨by assumption, hr⟩

theorem AllF_scanLoop {P : Frame → Prop} {fl sb s ts fuel todo rp} {rest : List Frame}
    (h4 : P (.tAdd s 4 ts [] rp)) (h8 : ∀ e more, P (.sDispatch s e.2 true 0) ∧ P (.tAdd s 8 ts (e :: more) rp))
    (hr : AllF P rest) : AllF P (scanLoop fl sb s ts fuel todo rp ++ rest) := by
  rcases scanLoop_shape fl sb s ts rp fuel todo with h | ⟨e, more, h⟩ <;> rw [h]
  · exact ⟨h4, hr⟩
  · exact ⟨(h8 e more).1, (h8 e more).2, hr⟩

/-- The claim for thread `i`'s new stack after a step: the untouched frames keep theirs (`hrest`), and the new ones are
    judged in a state `σ'` of which only the transport and the subscribers are known. -/
theorem self_upd {σ : Sys} {i : Nat} {th : Thread} {sf g st l r} {rest : List Frame} {P : Sys → Frame → Prop}
    (hth : σ.threads[i]? = some th) (hrest : AllF (P (upd σ i sf g st l r)) rest)
    (h : ∀ σ' : Sys, σ'.tr = g σ.tr → (∀ s, getSub σ' s = getSub (updSub σ sf) s) → AllF (P σ') rest → AllF (P σ') st) :
    ∀ th', (upd σ i sf g st l r).threads[i]? = some th' → AllF (P (upd σ i sf g st l r)) th'.stack :=
  upd_self hth (h _ (upd_tr ..) (fun _ => rfl) hrest)

/-! ### the initial state -/

theorem init_threads (fl : Flags) (kind : Kind) (size : Nat) (subs : List Sub) (ops : List Op) (i : Nat) (th : Thread)
    (h : (Sys.init fl kind size subs ops).threads[i]? = some th) :
    ∃ o, ops[i]? = some o ∧ th = { op := o, stack := o.start } := by
  simp only [Sys.init, List.getElem?_map, Option.map_eq_some_iff] at h
  obtain ⟨o, ho, rfl⟩ := h
  exact ⟨o, ho, rfl⟩

theorem init_stacks {P : List Frame → Prop} (h : ∀ o : Op, P o.start) {fl kind size subs ops} (i : Nat) (th : Thread)
    (hi : (Sys.init fl kind size subs ops).threads[i]? = some th) : P th.stack := by
  obtain ⟨o, -, rfl⟩ := init_threads _ _ _ _ _ i th hi
  exact h o

theorem init_getSub (fl : Flags) (kind : Kind) (size : Nat) {subs : List Sub} {ops : List Op}
    (wf : WellFormed subs ops) (s : Nat) : ∃ t r c, getSub (Sys.init fl kind size subs ops) s = Sub.fresh t r c := by
  unfold getSub
  simp only [Sys.init, List.getD_eq_getElem?_getD]
  cases h : subs[s]? with
  | none => exact ⟨[], .none, 3, rfl⟩
  | some b => exact wf.fresh b (List.mem_of_getElem? h)

theorem vs_start {n : Nat} (o : Op)
    (h : match o with | .add s | .remove s | .disconnect s | .recv s => s < n | _ => True) : VS n o o.start := by
  cases o <;> simp only [Op.start] <;> (constructor <;> first | assumption | omega)

/-! ### when a thread does not move -/

/-- What a thread parked before `fr` is waiting for when it cannot move (any flags). -/
def waitsFor (σ : Sys) : Frame → Prop
  | .sDispatch s _ _ 2 | .sReady s 0 _ => (getSub σ s).liveOwner.isSome
  | .sDispatch s _ _ 3 | .sReady s 1 _ | .sDisconnect s 1 => (getSub σ s).outOwner.isSome
  | .tDispatch _ pc _ =>
    σ.tr.writer.isSome ∧ (if σ.tr.kind = Kind.local ∧ σ.flags.localMatchLocked = false then 2 ≤ pc else pc = 1)
  | .tAdd _ 1 _ _ _ | .tRemove _ 1 | .tList => σ.tr.writer.isSome
  | .tClose 0 _ => σ.tr.onceRunning.isSome
  | .tClose pc _ =>
    match σ.tr.kind with
    | .bolt => (pc = 2 ∧ σ.tr.writer.isSome) ∨ (4 ≤ pc ∧ σ.tr.readers > 0)
    | .local => pc = 1 ∧ σ.tr.writer.isSome
  | _ => False

/-- Whatever a thread waits for is held: a mutex of some subscriber, the transport lock, the Once, or (Bolt's
    `db.Close`) an open read transaction. -/
theorem waitsFor_busy {σ : Sys} {fr : Frame} (h : waitsFor σ fr) :
    (∃ s, (getSub σ s).outOwner.isSome) ∨ (∃ s, (getSub σ s).liveOwner.isSome) ∨ σ.tr.writer.isSome ∨
    σ.tr.onceRunning.isSome ∨ (σ.tr.kind = .bolt ∧ 0 < σ.tr.readers) := by
  unfold waitsFor at h
  split at h
  case h_1 | h_2 => exact .inr (.inl ⟨_, h⟩)
  case h_3 | h_4 | h_5 => exact .inl ⟨_, h⟩
  case h_6 => exact .inr (.inr (.inl h.1))
  case h_7 | h_8 | h_9 => exact .inr (.inr (.inl h))
  case h_10 => exact .inr (.inr (.inr (.inl h)))
  case h_11 =>
    split at h
    · rename_i hk
      exact h.elim (fun h => .inr (.inr (.inl h.2))) fun h => .inr (.inr (.inr (.inr ⟨hk, h.2⟩)))
    · exact .inr (.inr (.inl h.2))
  case h_12 => exact h.elim

theorem waitsFor_of_not_moved {σ : Sys} {i : Nat} {th : Thread} {fr : Frame} {rest : List Frame}
    (hp : σ.panic = none) (hth : σ.threads[i]? = some th) (hst : th.stack = fr :: rest)
    (hw : (step σ i).moved = false) : waitsFor σ fr := by
  unfold step at hw
  cases fr
  all_goals simp only [hp, hth, hst, Option.isSome_none, Bool.false_eq_true, if_false] at hw
  all_goals repeat' split at hw
  -- the thread moved; or it waits, and `waitsFor` computes to the condition just split off; or (`t.Dispatch`,
  -- `t.Close`) to that condition and what the match says about the kind of transport, the flag and `pc`
  all_goals first | exact Bool.noConfusion hw | assumption | (simp_all [waitsFor] <;> omega)

/-! ### what every reachable state satisfies, and how invariants are proved -/

/-- Repaired flags, valid stacks, every thread parked before a synchronisation operation. -/
structure WF (σ : Sys) : Prop where
  flags : σ.flags = Flags.repaired
  shape : Shape σ
  parked : Parked σ

theorem WF_init {kind : Kind} {size : Nat} {subs : List Sub} {ops : List Op} (wf : WellFormed subs ops) :
    WF (Sys.init Flags.repaired kind size subs ops) := by
  refine ⟨rfl, ⟨fun i th h => ?_, fun s hs => by simp [Sys.init] at hs⟩, fun i th h => ?_⟩ <;>
    obtain ⟨o, ho, rfl⟩ := init_threads _ _ _ _ _ i th h
  · exact vs_start o (wf.inRange o (List.mem_of_getElem? ho))
  · cases o <;> rfl

theorem run_inv {I : Sys → Prop} (hstep : ∀ σ i, I σ → I (step σ i).σ) :
    ∀ (sched : List Nat) (σ : Sys), I σ → I (run σ sched)
  | [], _, h => h
  | i :: is, σ, h => run_inv hstep is _ (hstep σ i h)

/-- An invariant kept by the flattened transitions, by the administrative ones and by a panic (which
    happens only at a send / close site of a closed channel) is kept by `step`, and so is `WF`. `hadm` gets the flags
    and the shapes only: between a transition and the end of `normalize` the thread is not parked. -/
theorem step_preserves {J : Sys → Prop}
    (htrans : ∀ σ i th σp, WF σ → J σ → σ.threads[i]? = some th → Trans σ i th.stack σp → J σp)
    (hadm : ∀ σ i th σ', σ.flags = Flags.repaired → Shape σ → J σ → σ.threads[i]? = some th → Adm σ i th σ' → J σ')
    (hpanic : ∀ σ (i : Nat) (th : Thread) fr rest s msg, J σ → σ.threads[i]? = some th → th.stack = fr :: rest →
      chanSite fr = some s → (getSub σ s).outClosed = true → J { σ with panic := some msg })
    {σ : Sys} (i : Nat) (hW : WF σ) (hJ : J σ) : WF (step σ i).σ ∧ J (step σ i).σ := by
  rcases step_trans (i := i) hW.flags with h | ⟨th, fr, rest, s, msg, hth, hst, hs, hc, h⟩ | ⟨th, hth, _, n, σp, hn, ht, h⟩
  · rw [h]; exact ⟨hW, hJ⟩
  · rw [h]; exact ⟨⟨hW.flags, ⟨hW.shape.vs, hW.shape.idx⟩, hW.parked⟩, hpanic σ i th fr rest s msg hJ hth hst hs hc⟩
  · rw [h]
    have hflp : σp.flags = Flags.repaired := (trans_frame ht).trans hW.flags
    -- the administrative transitions keep flags, shapes and `J`
    have hN := normalize_inv (I := fun σ => σ.flags = Flags.repaired ∧ Shape σ ∧ J σ) (i := i)
      (fun σ1 σ2 h1 h2 => by
        cases ht1 : σ1.threads[i]? with
        | none => simp [admin, ht1] at h2
        | some t1 =>
          have ha := admin_adm h1.1 ht1 h2
          exact ⟨(adm_frame ha).2.trans h1.1, shape_adm h1.2.1 ht1 ha, hadm σ1 i t1 σ2 h1.1 h1.2.1 h1.2.2 ht1 ha⟩)
      n σp ⟨hflp, shape_trans hW.shape hth ht, htrans σ i th σp hW hJ hth ht⟩
    obtain ⟨th', hth', _⟩ := trans_self hth ht
    obtain ⟨m, rfl⟩ : ∃ m, n = m + 1 := ⟨n - 1, by omega⟩
    refine ⟨⟨hN.1, hN.2.1, normalize_parked (shape_trans hW.shape hth ht) hflp hth' ?_ m⟩, hN.2.2⟩
    intro j t hji hj
    rw [trans_other ht hji] at hj
    exact hW.parked j t hj

theorem reach_inv {J : Sys → Prop}
    (htrans : ∀ σ i th σp, WF σ → J σ → σ.threads[i]? = some th → Trans σ i th.stack σp → J σp)
    (hadm : ∀ σ i th σ', σ.flags = Flags.repaired → Shape σ → J σ → σ.threads[i]? = some th → Adm σ i th σ' → J σ')
    (hpanic : ∀ σ (i : Nat) (th : Thread) fr rest s msg, J σ → σ.threads[i]? = some th → th.stack = fr :: rest →
      chanSite fr = some s → (getSub σ s).outClosed = true → J { σ with panic := some msg })
    {kind : Kind} {size : Nat} {subs : List Sub} {ops : List Op} (wf : WellFormed subs ops)
    (hinit : J (Sys.init Flags.repaired kind size subs ops)) (sched : List Nat) :
    WF (reach Flags.repaired kind size subs ops sched) ∧ J (reach Flags.repaired kind size subs ops sched) :=
  run_inv (I := fun σ => WF σ ∧ J σ) (fun _ i h => step_preserves htrans hadm hpanic i h.1 h.2) sched _ ⟨WF_init wf, hinit⟩

end Mercure.Sys.Stream

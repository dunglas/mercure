import Mercure.Lemmas.Hub
/-
  Lemmas about subscription events and the subscription API over hub histories (C17, C18),
  and about the count of open streams (C20).
-/
namespace Mercure

variable (M : Str → Str → Bool) (tokP tokS : Str → Option Claims)
variable (cfg : HubCfg) (kind : Kind) (size cap : Nat)

/-- Selectors announced for connection `label` with the given `active` flag, in order. -/
def evs (st : HubSt) (label : Nat) (active : Bool) : List Str :=
  (st.events.filter (fun e => e.1 == label && e.2.2 == active)).map (·.2.1)

/-! ### abstraction of the hub state -/

/-- What the subscription events and the subscription API depend on: of each connection its `core`, of the hub the index,
    the event log and the ghost list of registrations that failed half-way. Buffers, history and metrics are left out. -/
structure Abs where
  cfg : HubCfg
  conns : List CoreC
  index : List Nat
  closed : Bool
  epoch : Nat
  uuid : Nat
  events : List (Nat × Str × Bool)
  failed : List (Nat × List Str × Bool)

def HubSt.abs (st : HubSt) : Abs :=
  { cfg := st.cfg, conns := st.conns.map Conn.core, index := st.index, closed := st.closed,
    epoch := st.epoch, uuid := st.uuid, events := st.events, failed := st.failed }

/-! ### dispatch and subscription events -/

theorem subDocs_topics (cfg : HubCfg) (M : Str → Str → Bool) (c : Conn) (a : Bool) :
    (subDocsOf cfg M c [] a).map (·.topic) = c.sels := by
  simp [subDocsOf, getSubscriptions, List.map_map, Function.comp_def]

/-- On an open hub every subscription event is taken and logged. -/
theorem evStep_abs (c : Conn) (a : Bool) (st : HubSt) (s : Subscription)
    (hc : st.closed = false) :
    (evStep M c a st s).abs =
      { st.abs with uuid := (evStep M c a st s).uuid, events := st.events ++ [(c.label, s.topic, a)] } ∧
    st.uuid ≤ (evStep M c a st s).uuid := by
  unfold evStep
  rcases dispatch_spec M st (subscriptionUpdate s) with ⟨h1, _⟩ | ⟨_, u', s', uu', db', _, _, huu, _, h2⟩
  · rw [hc] at h1; cases h1
  · rw [h2]
    refine ⟨?_, huu⟩
    unfold HubSt.abs
    simp only [fanout_core]

theorem foldl_evStep_abs (c : Conn) (a : Bool) (docs : List Subscription) (st : HubSt)
    (hc : st.closed = false) :
    (docs.foldl (evStep M c a) st).abs =
      { st.abs with uuid := (docs.foldl (evStep M c a) st).uuid,
                    events := st.events ++ docs.map (fun s => (c.label, s.topic, a)) } ∧
    st.uuid ≤ (docs.foldl (evStep M c a) st).uuid := by
  induction docs generalizing st with
  | nil => simp [HubSt.abs]
  | cons s ss ih =>
    simp only [List.foldl_cons]
    obtain ⟨h1, h2⟩ := evStep_abs M c a st s hc
    obtain ⟨i1, i2⟩ := ih (evStep M c a st s) ((congrArg Abs.closed h1).trans hc)
    refine ⟨?_, Nat.le_trans h2 i2⟩
    rw [i1, h1, show (evStep M c a st s).events = st.events ++ [(c.label, s.topic, a)] from congrArg Abs.events h1]
    simp

theorem HubSt.subscriptionEvents_abs (st : HubSt) (c : Conn) (a : Bool) :
    (st.subscriptionEvents M c a).abs =
      { st.abs with uuid := (st.subscriptionEvents M c a).uuid,
                    events := st.events ++ (if st.cfg.subscriptions && !st.closed
                                            then c.sels.map (fun s => (c.label, s, a)) else []) } ∧
    st.uuid ≤ (st.subscriptionEvents M c a).uuid := by
  cases hc : st.closed
  · rw [subscriptionEvents_eq]
    cases hs : st.cfg.subscriptions
    · simp [HubSt.abs]
    · simp only [Bool.not_true, Bool.false_eq_true, if_false, Bool.not_false, Bool.and_self, if_true]
      obtain ⟨h1, h2⟩ := foldl_evStep_abs M c a (subDocsOf st.cfg M c [] a) st hc
      refine ⟨?_, h2⟩
      rw [h1, ← subDocs_topics st.cfg M c a, List.map_map]
      rfl
  · rw [subEvents_of_closed st c a hc]
    simp [HubSt.abs]

/-! ### abstract operations

The last argument `n` of each is the uuid counter afterwards: how many ids the events took is not tracked, only that
the counter does not go back (`Gen`). -/

def CoreC.shut (l : Nat) (o : Bool) (c : CoreC) : CoreC :=
  if c.label == l then { c with done := true, shutdownOpen := o } else c

def Abs.shutdown (a : Abs) (l n : Nat) : Abs :=
  match a.conns.find? (·.label == l) with
  | none => a
  | some c =>
    if c.done then a else
    { a with conns := a.conns.map (CoreC.shut l (!a.closed && c.epoch == a.epoch)),
             index := if (!a.closed && c.epoch == a.epoch) then a.index.filter (· != l) else a.index,
             events := a.events ++ (if a.cfg.subscriptions && (!a.closed && c.epoch == a.epoch)
                                    then c.sels.map (fun s => (l, s, false)) else []),
             uuid := n }

def Abs.connect (a : Abs) (c : CoreC) (n : Nat) : Abs :=
  { a with conns := a.conns ++ [c], index := a.index ++ [c.label],
           events := a.events ++ (if a.cfg.subscriptions then c.sels.map (fun s => (c.label, s, true)) else []),
           uuid := n }

/-- A registration that fails half-way: both rounds of events (when the hub is open), the ghost entry. -/
def Abs.fail (a : Abs) (l : Nat) (sels : List Str) (n : Nat) : Abs :=
  { a with events := a.events ++ (if a.cfg.subscriptions && !a.closed then sels.map (fun s => (l, s, true)) else [])
                       ++ (if a.cfg.subscriptions && !a.closed then sels.map (fun s => (l, s, false)) else []),
           failed := a.failed ++ [(l, sels, !a.closed)],
           uuid := n }

/-- `Gen L a b`: `b` is obtained from `a` by abstract steps, using the labels `L` in order
    (for connections and for registrations that fail half-way). -/
inductive Gen : List Nat → Abs → Abs → Prop
  | refl (a : Abs) : Gen [] a a
  | bump {L : List Nat} {a b : Abs} (n : Nat) (h : a.uuid ≤ n) : Gen L { a with uuid := n } b → Gen L a b
  | shutdown {L : List Nat} {a b : Abs} (l n : Nat) (h : a.uuid ≤ n) : Gen L (a.shutdown l n) b → Gen L a b
  | connect {L : List Nat} {a b : Abs} (c : CoreC) (n : Nat) (hc : a.closed = false)
      (hs : c.sid = uuidOf a.uuid) (hn : a.uuid < n) (he : c.epoch = a.epoch) (hd : c.done = false)
      (ho : c.shutdownOpen = false) : Gen L (a.connect c n) b → Gen (c.label :: L) a b
  | fail {L : List Nat} {a b : Abs} (l : Nat) (sels : List Str) (n : Nat) (h : a.uuid ≤ n) :
      Gen L (a.fail l sels n) b → Gen (l :: L) a b
  | close {L : List Nat} {a b : Abs} : Gen L { a with closed := true } b → Gen L a b
  | restart {L : List Nat} {a b : Abs} :
      Gen L { a with closed := false, index := [], epoch := a.epoch + 1 } b → Gen L a b

theorem Gen.trans {L1 L2 : List Nat} {a b c : Abs} (h1 : Gen L1 a b) (h2 : Gen L2 b c) : Gen (L1 ++ L2) a c := by
  induction h1 with
  | refl a => exact h2
  | bump n h _ ih => exact Gen.bump n h (ih h2)
  | shutdown l n h _ ih => exact Gen.shutdown l n h (ih h2)
  | connect c n hc hs hn he hd ho _ ih => exact Gen.connect c n hc hs hn he hd ho (ih h2)
  | fail l sels n h _ ih => exact Gen.fail l sels n h (ih h2)
  | close _ ih => exact Gen.close (ih h2)
  | restart _ ih => exact Gen.restart (ih h2)

theorem Gen.of_eq {a b : Abs} (h : b = a) : Gen [] a b := h ▸ Gen.refl a

theorem Gen.trans' {a b c : Abs} (h1 : Gen [] a b) (h2 : Gen [] b c) : Gen [] a c := Gen.trans h1 h2

/-! ### shutdown -/

theorem find_core (conns : List Conn) (l : Nat) :
    (conns.map Conn.core).find? (·.label == l) = (getConn conns l).map Conn.core := by
  unfold getConn; rw [List.find?_map]; rfl

theorem mark_abs (st : HubSt) (l : Nat) (o : Bool) :
    (st.mark l o).abs = { st.abs with conns := st.abs.conns.map (CoreC.shut l o),
                                      index := if o then st.index.filter (· != l) else st.index } := by
  unfold HubSt.mark HubSt.abs updConn
  simp only [List.map_map]
  congr 1
  apply List.map_congr_left
  intro c _
  show Conn.core (if _ then _ else c) = CoreC.shut l o c.core
  unfold CoreC.shut
  show _ = if (c.label == l) = true then _ else _
  split <;> rfl

theorem HubSt.shutdown_abs (st : HubSt) (l : Nat) :
    (st.shutdown M l).abs = st.abs.shutdown l (st.shutdown M l).uuid ∧ st.uuid ≤ (st.shutdown M l).uuid := by
  rw [shutdown_eq]
  unfold Abs.shutdown
  rw [show st.abs.conns.find? (·.label == l) = (getConn st.conns l).map Conn.core from find_core st.conns l]
  cases hg : getConn st.conns l with
  | none => exact ⟨rfl, Nat.le_refl _⟩
  | some c =>
    have hl : c.label = l := by simpa using List.find?_some hg
    simp only [Option.map_some]
    show _ = (if c.done = true then _ else _) ∧ _
    split
    · exact ⟨rfl, Nat.le_refl _⟩
    · have he : (!st.abs.closed && c.core.epoch == st.abs.epoch) = (!st.closed && c.epoch == st.epoch) := rfl
      rw [he]
      cases ho : (!st.closed && c.epoch == st.epoch)
      · refine ⟨?_, Nat.le_refl _⟩
        show (st.mark l false).abs = _
        rw [mark_abs]
        simp only [Bool.false_eq_true, if_false, Bool.and_false, List.append_nil]
        rfl
      · obtain ⟨h1, h2⟩ := HubSt.subscriptionEvents_abs M (st.mark l true) c false
        refine ⟨?_, h2⟩
        show (HubSt.subscriptionEvents M (st.mark l true) c false).abs = _
        rw [h1, mark_abs]
        have hcl : st.closed = false := by cases hh : st.closed <;> simp [hh] at ho ⊢
        simp only [HubSt.mark, HubSt.abs, hcl, hl, Conn.core, if_true, Bool.not_false, Bool.and_true]
        rfl

/-! ### settle and the operations generate abstract steps -/

theorem Gen.of_shutdown (st : HubSt) (l : Nat) : Gen [] st.abs (st.shutdown M l).abs := by
  obtain ⟨h1, h2⟩ := HubSt.shutdown_abs M st l
  rw [h1]; exact Gen.shutdown l _ h2 (Gen.refl _)

theorem abs_pump (st : HubSt) : ({ st with conns := st.conns.map Conn.pump } : HubSt).abs = st.abs := by
  unfold HubSt.abs; simp only [map_core Conn.pump_core]

theorem Gen.of_settle : ∀ (fuel : Nat) (st : HubSt), Gen [] st.abs (st.settle M fuel).abs := by
  intro fuel
  induction fuel with
  | zero => intro st; exact Gen.refl _
  | succ n ih =>
    intro st
    rw [HubSt.settle]
    split
    · split
      · exact Gen.of_eq (abs_pump st)
      · exact (Gen.of_eq (abs_pump st)).trans' (ih _)
    · refine Gen.trans' ?_ (ih _)
      exact List.foldlRecOn (motive := fun s => Gen [] st.abs s.abs) _ _ (Gen.of_eq (abs_pump st))
        fun s hs l _ => hs.trans' (Gen.of_shutdown M s l)

theorem Gen.of_dispatch (st : HubSt) (u : Update) : Gen [] st.abs (st.dispatch M u).1.abs := by
  rcases dispatch_spec M st u with ⟨_, h2⟩ | ⟨_, u', s', uu', db', _, _, huu, _, h2⟩ <;> rw [h2]
  · exact Gen.refl _
  · refine Gen.bump uu' huu (Gen.of_eq ?_)
    unfold HubSt.abs
    simp only [fanout_core]

theorem Gen.of_publish (tok : Str → Option Claims) (st : HubSt) (r : PubReq) :
    Gen [] st.abs (st.publish M tok r).1.abs := by
  unfold HubSt.publish
  split
  · exact Gen.refl _
  · rename_i u _
    have hd := Gen.of_dispatch M st u
    split
    · rename_i st' id heq
      rw [heq] at hd
      refine hd.trans' ?_
      refine Gen.trans' ?_ (Gen.of_settle M _ _)
      exact Gen.of_eq rfl
    · rename_i st' heq
      rw [heq] at hd
      exact hd

theorem abs_updConn (st : HubSt) (l : Nat) {f : Conn → Conn} (hf : ∀ c, (f c).core = c.core) :
    ({ st with conns := updConn st.conns l f } : HubSt).abs = st.abs := by
  unfold HubSt.abs; simp only [updConn_core hf]

theorem Gen.of_clientClose (st : HubSt) (l : Nat) :
    Gen [] st.abs (st.clientClose M l).abs := by
  unfold HubSt.clientClose
  split
  · exact Gen.refl _
  · split
    · exact Gen.refl _
    · simp only []
      refine Gen.trans' ?_ (Gen.of_settle M _ _)
      refine Gen.trans' ?_ (Gen.of_shutdown M _ l)
      exact Gen.of_eq (abs_updConn st l (fun _ => rfl))

theorem Gen.of_close (st : HubSt) : Gen [] st.abs (st.close M).abs := by
  unfold HubSt.close
  split
  · exact Gen.refl _
  · simp only []
    refine Gen.close (Gen.trans' (Gen.of_eq ?_) (Gen.of_settle M _ _))
    unfold HubSt.abs
    simp only [Abs.mk.injEq, and_true, true_and]
    apply map_core
    intro c; split <;> rfl

theorem Gen.of_restart (st : HubSt) : Gen [] st.abs (st.restart M).abs := by
  unfold HubSt.restart
  exact (Gen.of_close M st).trans' (Gen.restart (Gen.refl _))

/-! ### connect, connectFailing and whole histories -/

theorem mkConn_core (st : HubSt) (c0 : Conn) (leid : Str) :
    (mkConn M st c0 leid).2.core = c0.core := by
  unfold mkConn
  split
  · rfl
  · split
    · rfl
    · exact Conn.replay_core M st.cap _ c0

theorem addConn_abs (st : HubSt) (label : Nat) (resp : Option Str) (conn : Conn) :
    (st.addConn label resp conn).abs =
      { st.abs with conns := st.abs.conns ++ [conn.core], index := st.index ++ [label] } := by
  unfold HubSt.addConn HubSt.abs
  simp only [List.map_append, List.map_cons, List.map_nil]
  rfl

theorem Gen.of_connect (tok : Str → Option Claims) (st : HubSt) (label : Nat) (r : SubReq) :
    ∃ L, L.Sublist [label] ∧ Gen L st.abs (st.connect M tok label r).1.abs := by
  -- refused, or the hub is closed: only the uuid moves
  have hbump : (st.connect M tok label r).1 = { st with uuid := st.uuid + 1 } →
      ∃ L, L.Sublist [label] ∧ Gen L st.abs (st.connect M tok label r).1.abs :=
    fun e => e ▸ ⟨[], List.nil_sublist _, Gen.bump _ (Nat.le_succ _) (Gen.refl _)⟩
  cases hcl : st.closed
  · cases hd : subscribeDecision st.cfg tok r with
    | refused s b => exact hbump (by rw [connect_refused tok st label r s b hd])
    | accepted c priv leid =>
      -- one abstract `connect`, then quiescence
      rw [connect_accepted tok st label r c priv leid hd]
      simp only []
      generalize hc0 : Conn.fresh st label r c priv leid = c0
      have hlabel : c0.label = label := by rw [← hc0]; rfl
      obtain ⟨h1, h2⟩ := HubSt.subscriptionEvents_abs M { st with uuid := st.uuid + 1 } c0 true
      generalize HubSt.subscriptionEvents M { st with uuid := st.uuid + 1 } c0 true = st1 at h1 h2 ⊢
      rw [show st1.closed = false from (congrArg Abs.closed h1).trans hcl, if_neg Bool.false_ne_true]
      refine ⟨[label], List.Sublist.refl _, Gen.trans (L1 := [label]) (L2 := []) ?_ (Gen.of_settle M _ _)⟩
      have e : (st1.addConn label (mkConn M st1 c0 leid).1 (mkConn M st1 c0 leid).2).abs =
          st.abs.connect c0.core st1.uuid := by
        have hi : st1.index = st.index := congrArg Abs.index h1
        rw [addConn_abs, mkConn_core, h1, hi]
        simp [Abs.connect, HubSt.abs, hcl, Conn.core, hlabel]
      rw [e, ← hlabel]
      exact Gen.connect c0.core st1.uuid hcl (by rw [← hc0]; rfl) h2
        (by rw [← hc0]; rfl) (by rw [← hc0]; rfl) (by rw [← hc0]; rfl) (Gen.refl _)
  · exact hbump (connect_refused_eq M tok st label r (closed_connect_status M tok st hcl label r))

theorem Gen.of_connectFailing (tok : Str → Option Claims) (st : HubSt) (label : Nat)
    (r : SubReq) :
    ∃ L, L.Sublist [label] ∧ Gen L st.abs (st.connectFailing M tok label r).1.abs := by
  cases hd : subscribeDecision st.cfg tok r with
  | refused s b =>
    rw [connectFailing_refused tok st label r s b hd]
    exact ⟨[], List.nil_sublist _, Gen.bump _ (Nat.le_succ _) (Gen.refl _)⟩
  | accepted c priv leid =>
    rw [connectFailing_accepted tok st label r c priv leid hd]
    simp only []
    generalize hc0 : Conn.fresh st label r c priv leid = c0
    have hlabel : c0.label = label := by rw [← hc0]; rfl
    have hsels : c0.sels = r.topics := by rw [← hc0]; rfl
    obtain ⟨h1, h2⟩ := HubSt.subscriptionEvents_abs M { st with uuid := st.uuid + 1 } c0 true
    generalize HubSt.subscriptionEvents M { st with uuid := st.uuid + 1 } c0 true = st1 at h1 h2 ⊢
    dsimp only [] at h1 h2
    obtain ⟨h3, h4⟩ := HubSt.subscriptionEvents_abs M st1 c0 false
    generalize HubSt.subscriptionEvents M st1 c0 false = st2 at h3 h4 ⊢
    refine ⟨[label], List.Sublist.refl _,
      Gen.fail label r.topics st2.uuid (by show st.uuid ≤ _; omega)
        (Gen.trans' (Gen.of_eq ?_) (Gen.of_settle M _ _))⟩
    have e : ({ st2 with failed := st2.failed ++ [(label, r.topics, !st.closed)] } : HubSt).abs =
        { st2.abs with failed := st2.abs.failed ++ [(label, r.topics, !st.closed)] } := rfl
    have hcfg1 : st1.cfg = st.cfg := congrArg Abs.cfg h1
    have hcl1 : st1.closed = st.closed := congrArg Abs.closed h1
    have hev1 : st1.events = st.events ++ (if st.cfg.subscriptions && !st.closed
        then c0.sels.map (fun s => (c0.label, s, true)) else []) := congrArg Abs.events h1
    rw [e, h3, hcfg1, hcl1, hev1, h1, hlabel, hsels]
    rfl

theorem Gen.of_step (st : HubSt) (op : HubOp) :
    ∃ L, L.Sublist op.connectLabel.toList ∧ Gen L st.abs (HubSt.step M tokP tokS st op).abs := by
  cases op with
  | publish r => exact ⟨[], List.nil_sublist _, Gen.of_publish M tokP st r⟩
  | connect l r => exact Gen.of_connect M tokS st l r
  | connectFail l r => exact Gen.of_connectFailing M tokS st l r
  | clientClose l => exact ⟨[], List.nil_sublist _, Gen.of_clientClose M st l⟩
  | stall l b =>
    refine ⟨[], List.nil_sublist _, Gen.trans' ?_ (Gen.of_settle M _ _)⟩
    exact Gen.of_eq (abs_updConn st l fun _ => rfl)
  | failNext l => exact ⟨[], List.nil_sublist _, Gen.of_eq (abs_updConn st l fun _ => rfl)⟩
  | close => exact ⟨[], List.nil_sublist _, Gen.of_close M st⟩
  | restart => exact ⟨[], List.nil_sublist _, Gen.of_restart M st⟩

theorem Gen.of_run (ops : List HubOp) :
    ∀ st : HubSt, ∃ L, L.Sublist (ops.filterMap HubOp.connectLabel) ∧
      Gen L st.abs (HubSt.run M tokP tokS st ops).abs := by
  induction ops with
  | nil => intro st; exact ⟨[], List.nil_sublist _, Gen.refl _⟩
  | cons op ops ih =>
    intro st
    obtain ⟨L1, hs1, g1⟩ := Gen.of_step M tokP tokS st op
    obtain ⟨L2, hs2, g2⟩ := ih (HubSt.step M tokP tokS st op)
    refine ⟨L1 ++ L2, ?_, ?_⟩
    · rw [List.filterMap_cons]; revert hs1
      cases op.connectLabel <;> exact fun hs1 => hs1.append hs2
    · exact Gen.trans g1 g2

/-! ### the invariant on abstract states -/

/-- `evs` on an event log. -/
def aevs (ev : List (Nat × Str × Bool)) (l : Nat) (a : Bool) : List Str :=
  (ev.filter (fun e => e.1 == l && e.2.2 == a)).map (·.2.1)

/-- One round of announcements (`o`: whether it is made at all), seen from `(l', b')`. -/
theorem aevs_round (ev : List (Nat × Str × Bool)) (o : Bool) (l : Nat) (b : Bool) (sels : List Str)
    (l' : Nat) (b' : Bool) :
    aevs (ev ++ if o then sels.map (fun s => (l, s, b)) else []) l' b' =
      aevs ev l' b' ++ if o && (l == l' && b == b') then sels else [] := by
  unfold aevs
  rw [List.filter_append, List.map_append]
  congr 1
  cases o
  · rfl
  · by_cases h : (l == l' && b == b') = true <;> simp [List.filter_map, Function.comp_def, h]

/-- Every label in use: those of the connections, then those of the registrations that failed half-way. -/
def Abs.labs (a : Abs) : List Nat := a.conns.map (·.label) ++ a.failed.map (·.1)

theorem labs_nodup_conns {a : Abs} (h : a.labs.Nodup) : (a.conns.map (·.label)).Nodup :=
  (List.nodup_append.1 h).1

theorem labs_nodup_disj {a : Abs} (h : a.labs.Nodup) :
    ∀ c ∈ a.conns, ∀ f ∈ a.failed, c.label ≠ f.1 := fun c hc f hf =>
  (List.nodup_append.1 h).2.2 c.label (List.mem_map_of_mem hc) f.1 (List.mem_map_of_mem hf)

theorem Abs.connect_labs (a : Abs) (c : CoreC) (n : Nat) : (a.connect c n).labs.Perm (c.label :: a.labs) := by
  show ((a.conns ++ [c]).map (·.label) ++ a.failed.map (·.1)).Perm _
  rw [List.map_append, List.append_assoc]
  exact List.perm_middle

theorem Abs.fail_labs (a : Abs) (l : Nat) (sels : List Str) (n : Nat) :
    (a.fail l sels n).labs.Perm (l :: a.labs) := by
  show (a.conns.map (·.label) ++ (a.failed ++ [(l, sels, !a.closed)]).map (·.1)).Perm _
  rw [List.map_append, ← List.append_assoc]
  exact List.perm_append_singleton l _

/-- `index`, `ev_start`, `ev_end`, `ev_fail` are stated under `labs.Nodup`: the freshness of labels (`FreshLabels`) is then used once, for the
    final state (`reach_labels_nodup`), and not carried through the history. -/
structure Inv (cfg0 : HubCfg) (a : Abs) : Prop where
  cfg : a.cfg = cfg0
  so_done : ∀ c ∈ a.conns, c.shutdownOpen = true → c.done = true
  ev_labels : ∀ e ∈ a.events, (∃ c ∈ a.conns, c.label = e.1) ∨ (∃ f ∈ a.failed, f.1 = e.1)
  ev_off : a.cfg.subscriptions = false → a.events = []
  epoch_le : ∀ c ∈ a.conns, c.epoch ≤ a.epoch
  sids : ∃ ns : List Nat, a.conns.map (·.sid) = ns.map uuidOf ∧ ns.Pairwise (· < ·) ∧ ∀ n ∈ ns, n < a.uuid
  idx_sub : ∀ l ∈ a.index, ∃ c ∈ a.conns, c.label = l
  index : a.labs.Nodup → a.closed = false →
    a.index = (a.conns.filter (fun c => !c.done && c.epoch == a.epoch)).map (·.label)
  ev_start : a.labs.Nodup → a.cfg.subscriptions = true →
    ∀ c ∈ a.conns, aevs a.events c.label true = c.sels
  ev_end : a.labs.Nodup → a.cfg.subscriptions = true →
    ∀ c ∈ a.conns, aevs a.events c.label false = if c.shutdownOpen then c.sels else []
  ev_fail : a.labs.Nodup → a.cfg.subscriptions = true →
    ∀ f ∈ a.failed, aevs a.events f.1 true = (if f.2.2 then f.2.1 else []) ∧
                    aevs a.events f.1 false = (if f.2.2 then f.2.1 else [])

theorem Inv.ev_labs {cfg0 : HubCfg} {a : Abs} (h : Inv cfg0 a) {e : Nat × Str × Bool} (he : e ∈ a.events) :
    e.1 ∈ a.labs := by
  rcases h.ev_labels e he with ⟨x, hx, hxe⟩ | ⟨f, hf, hfe⟩
  · exact List.mem_append_left _ (hxe ▸ List.mem_map_of_mem hx)
  · exact List.mem_append_right _ (hfe ▸ List.mem_map_of_mem hf)

theorem ev_labels_of_labs {a : Abs} (h : ∀ e ∈ a.events, e.1 ∈ a.labs) :
    ∀ e ∈ a.events, (∃ c ∈ a.conns, c.label = e.1) ∨ (∃ f ∈ a.failed, f.1 = e.1) := by
  intro e he
  rcases List.mem_append.1 (h e he) with h1 | h1
  · obtain ⟨c, hc, hce⟩ := List.mem_map.1 h1; exact Or.inl ⟨c, hc, hce⟩
  · obtain ⟨f, hf, hfe⟩ := List.mem_map.1 h1; exact Or.inr ⟨f, hf, hfe⟩

theorem round_label {o : Bool} {l : Nat} {b : Bool} {sels : List Str} {e : Nat × Str × Bool}
    (h : e ∈ (if o = true then sels.map (fun s => (l, s, b)) else [])) : e.1 = l := by
  split at h
  · obtain ⟨s, _, rfl⟩ := List.mem_map.1 h; rfl
  · cases h

/-- What the distinctness of the labels gives when `l` has just been put in use. -/
theorem Inv.fresh {cfg0 : HubCfg} {a : Abs} (h : Inv cfg0 a) {l : Nat} {labs' : List Nat}
    (hp : labs'.Perm (l :: a.labs)) (hnd : labs'.Nodup) :
    a.labs.Nodup ∧ (∀ x ∈ a.conns, x.label ≠ l) ∧ (∀ f ∈ a.failed, f.1 ≠ l) ∧ ∀ b, aevs a.events l b = [] := by
  obtain ⟨hl, hnd'⟩ := List.nodup_cons.1 (hp.nodup_iff.1 hnd)
  have h4 : ∀ x ∈ a.conns, x.label ≠ l := fun x hx e =>
    hl (List.mem_append_left _ (e ▸ List.mem_map_of_mem hx))
  have h5 : ∀ f ∈ a.failed, f.1 ≠ l := fun f hf e =>
    hl (List.mem_append_right _ (e ▸ List.mem_map_of_mem hf))
  refine ⟨hnd', h4, h5, fun b => ?_⟩
  -- nothing was announced yet for a label that is not in use
  unfold aevs
  rw [List.map_eq_nil_iff, List.filter_eq_nil_iff]
  intro e he
  have : e.1 ≠ l := fun e1 => hl (e1 ▸ h.ev_labs he)
  simp [this]

theorem Inv.bump {cfg0 : HubCfg} {a : Abs} (h : Inv cfg0 a) (n : Nat) (hn : a.uuid ≤ n) :
    Inv cfg0 { a with uuid := n } := by
  obtain ⟨ns, h1, h2, h3⟩ := h.sids
  exact { h with sids := ⟨ns, h1, h2, fun m hm => Nat.lt_of_lt_of_le (h3 m hm) hn⟩ }

theorem Inv.close {cfg0 : HubCfg} {a : Abs} (h : Inv cfg0 a) : Inv cfg0 { a with closed := true } :=
  { h with index := fun _ hc => by cases hc }

theorem Inv.restart {cfg0 : HubCfg} {a : Abs} (h : Inv cfg0 a) :
    Inv cfg0 { a with closed := false, index := [], epoch := a.epoch + 1 } :=
  { h with
    epoch_le := fun c hc => Nat.le_succ_of_le (h.epoch_le c hc)
    idx_sub := fun l hl => by cases hl
    index := by
      intro _ _
      have : a.conns.filter (fun c => !c.done && c.epoch == a.epoch + 1) = [] := by
        rw [List.filter_eq_nil_iff]
        intro c hc
        have := h.epoch_le c hc
        have hne : ¬ c.epoch = a.epoch + 1 := by omega
        simp [hne]
      rw [this]; rfl }

theorem Inv.connect {cfg0 : HubCfg} {a : Abs} (h : Inv cfg0 a) (c : CoreC) (n : Nat) (hc : a.closed = false)
    (hs : c.sid = uuidOf a.uuid) (hn : a.uuid < n) (he : c.epoch = a.epoch) (hd : c.done = false)
    (ho : c.shutdownOpen = false) : Inv cfg0 (a.connect c n) := by
  have hevents : (a.connect c n).events =
      a.events ++ (if a.cfg.subscriptions then c.sels.map (fun s => (c.label, s, true)) else []) := rfl
  have hfresh := h.fresh (a.connect_labs c n)
  -- the fields about every connection: the old ones by `h`, then `c`
  refine { cfg := h.cfg, so_done := List.forall_mem_append.2 ⟨h.so_done, List.forall_mem_singleton.2 ?_⟩,
           ev_labels := ?_, ev_off := ?_,
           epoch_le := List.forall_mem_append.2 ⟨h.epoch_le, List.forall_mem_singleton.2 (Nat.le_of_eq he)⟩,
           sids := ?_, idx_sub := ?_, index := ?_, ev_start := ?_, ev_end := ?_, ev_fail := ?_ }
  · intro hxo
    rw [ho] at hxo; cases hxo
  · refine ev_labels_of_labs (fun e hee => ?_)
    rw [(a.connect_labs c n).mem_iff, List.mem_cons]
    rcases List.mem_append.1 hee with he | he
    · exact Or.inr (h.ev_labs he)
    · exact Or.inl (round_label he)
  · intro hoff
    rw [hevents, h.ev_off hoff, show a.cfg.subscriptions = false from hoff]; rfl
  · obtain ⟨ns, h1, h2, h3⟩ := h.sids
    refine ⟨ns ++ [a.uuid], ?_, ?_, ?_⟩
    · show (a.conns ++ [c]).map (·.sid) = _
      rw [List.map_append, List.map_append, h1]; simp [hs]
    · rw [List.pairwise_append]
      refine ⟨h2, List.pairwise_singleton _ _, ?_⟩
      intro x hx y hy
      rw [List.mem_singleton.1 hy]; exact h3 x hx
    · intro m hm
      rcases List.mem_append.1 hm with hm | hm
      · exact Nat.lt_trans (h3 m hm) hn
      · rw [List.mem_singleton.1 hm]; exact hn
  · intro l hl
    rcases List.mem_append.1 hl with hl1 | hl2
    · obtain ⟨x, hx, hxl⟩ := h.idx_sub l hl1
      exact ⟨x, List.mem_append_left _ hx, hxl⟩
    · exact ⟨c, List.mem_append_right _ (List.mem_singleton.2 rfl), (List.mem_singleton.1 hl2).symm⟩
  · intro hnd _
    show a.index ++ [c.label] = ((a.conns ++ [c]).filter (fun x => !x.done && x.epoch == a.epoch)).map (·.label)
    rw [List.filter_append, List.map_append, ← h.index (hfresh hnd).1 hc]
    simp [hd, he]
  · intro hnd hsub
    obtain ⟨hnd', hfl, _, hfe⟩ := hfresh hnd
    refine List.forall_mem_append.2 ⟨fun x hx => ?_, List.forall_mem_singleton.2 ?_⟩ <;> rw [hevents, aevs_round]
    · rw [h.ev_start hnd' hsub x hx]; simp [Ne.symm (hfl x hx)]
    · rw [hfe]; simp [show a.cfg.subscriptions = true from hsub]
  · intro hnd hsub
    obtain ⟨hnd', _, _, hfe⟩ := hfresh hnd
    refine List.forall_mem_append.2 ⟨fun x hx => ?_, List.forall_mem_singleton.2 ?_⟩ <;> rw [hevents, aevs_round]
    · rw [h.ev_end hnd' hsub x hx]; simp
    · rw [hfe, ho]; simp
  · intro hnd hsub f hf
    obtain ⟨hnd', _, hff, _⟩ := hfresh hnd
    rw [hevents, aevs_round, aevs_round]
    simpa [Ne.symm (hff f hf)] using h.ev_fail hnd' hsub f hf

theorem Inv.fail {cfg0 : HubCfg} {a : Abs} (h : Inv cfg0 a) (l : Nat) (sels : List Str) (n : Nat)
    (hn : a.uuid ≤ n) : Inv cfg0 (a.fail l sels n) := by
  generalize ho : (a.cfg.subscriptions && !a.closed) = o
  have hevents : (a.fail l sels n).events =
      a.events ++ (if o then sels.map (fun s => (l, s, true)) else [])
        ++ (if o then sels.map (fun s => (l, s, false)) else []) := by rw [← ho]; rfl
  have hfailed : (a.fail l sels n).failed = a.failed ++ [(l, sels, !a.closed)] := rfl
  have hfresh := h.fresh (a.fail_labs l sels n)
  refine { cfg := h.cfg, so_done := h.so_done, ev_labels := ?_, ev_off := ?_, epoch_le := h.epoch_le, sids := ?_,
           idx_sub := h.idx_sub, index := ?_, ev_start := ?_, ev_end := ?_, ev_fail := ?_ }
  · refine ev_labels_of_labs (fun e hee => ?_)
    rw [(a.fail_labs l sels n).mem_iff, List.mem_cons]
    rw [hevents] at hee
    rcases List.mem_append.1 hee with he | he
    · rcases List.mem_append.1 he with he | he
      · exact Or.inr (h.ev_labs he)
      · exact Or.inl (round_label he)
    · exact Or.inl (round_label he)
  · intro hoff
    rw [hevents, h.ev_off hoff, ← ho, show a.cfg.subscriptions = false from hoff]; rfl
  · exact (h.bump n hn).sids
  · intro hnd hcl
    exact h.index (hfresh hnd).1 hcl
  · intro hnd hsub x hx
    obtain ⟨hnd', hfl, _, _⟩ := hfresh hnd
    rw [hevents, aevs_round, aevs_round, h.ev_start hnd' hsub x hx]
    simp [Ne.symm (hfl x hx)]
  · intro hnd hsub x hx
    obtain ⟨hnd', hfl, _, _⟩ := hfresh hnd
    rw [hevents, aevs_round, aevs_round, h.ev_end hnd' hsub x hx]
    simp [Ne.symm (hfl x hx)]
  · intro hnd hsub f hf
    obtain ⟨hnd', _, hff, hfe⟩ := hfresh hnd
    rw [hevents, aevs_round, aevs_round, aevs_round, aevs_round]
    rw [hfailed] at hf
    rcases List.mem_append.1 hf with hf | hf
    · simpa [Ne.symm (hff f hf)] using h.ev_fail hnd' hsub f hf
    · -- the new entry: nothing was announced for `l` before
      rw [List.mem_singleton.1 hf, hfe, hfe]
      rw [show a.cfg.subscriptions = true from hsub, Bool.true_and] at ho
      simp [← ho]

/-! ### shutdown preserves the invariant -/

theorem shut_label (l : Nat) (o : Bool) (y : CoreC) : (CoreC.shut l o y).label = y.label := by
  unfold CoreC.shut; split <;> rfl
theorem shut_sid (l : Nat) (o : Bool) (y : CoreC) : (CoreC.shut l o y).sid = y.sid := by
  unfold CoreC.shut; split <;> rfl
theorem shut_sels (l : Nat) (o : Bool) (y : CoreC) : (CoreC.shut l o y).sels = y.sels := by
  unfold CoreC.shut; split <;> rfl
theorem shut_epoch (l : Nat) (o : Bool) (y : CoreC) : (CoreC.shut l o y).epoch = y.epoch := by
  unfold CoreC.shut; split <;> rfl
theorem shut_of_ne (l : Nat) (o : Bool) (y : CoreC) (h : y.label ≠ l) : CoreC.shut l o y = y := by
  unfold CoreC.shut; rw [if_neg (by simpa using h)]
theorem shut_of_eq (l : Nat) (o : Bool) (y : CoreC) (h : y.label = l) :
    CoreC.shut l o y = { y with done := true, shutdownOpen := o } := by
  unfold CoreC.shut; rw [if_pos (by simpa using h)]

theorem shut_filter_open (l : Nat) (o : Bool) (E : Nat) (conns : List CoreC) :
    ((conns.map (CoreC.shut l o)).filter (fun c => !c.done && c.epoch == E)).map (·.label) =
      ((conns.filter (fun c => !c.done && c.epoch == E)).map (·.label)).filter (· != l) := by
  induction conns with
  | nil => rfl
  | cons y ys ih =>
    rw [List.map_cons, List.filter_cons, List.filter_cons]
    by_cases hy : y.label = l
    · rw [shut_of_eq l o y hy]
      simp only [Bool.not_true, Bool.false_and, Bool.false_eq_true, ↓reduceIte]
      rw [ih]
      split
      · rw [List.map_cons, List.filter_cons]
        simp [hy]
      · rfl
    · rw [shut_of_ne l o y hy]
      split
      · rw [List.map_cons, List.map_cons, List.filter_cons, ih]
        simp [hy]
      · exact ih

theorem Abs.shutdown_cases (a : Abs) (l n : Nat) :
    a.shutdown l n = a ∨
    ∃ c ∈ a.conns, c.label = l ∧ c.done = false ∧
      a.shutdown l n =
        { a with conns := a.conns.map (CoreC.shut l (!a.closed && c.epoch == a.epoch)),
                 index := if (!a.closed && c.epoch == a.epoch) then a.index.filter (· != l) else a.index,
                 events := a.events ++ (if a.cfg.subscriptions && (!a.closed && c.epoch == a.epoch)
                                        then c.sels.map (fun s => (l, s, false)) else []),
                 uuid := n } := by
  unfold Abs.shutdown
  cases hf : a.conns.find? (·.label == l) with
  | none => exact Or.inl rfl
  | some c =>
    by_cases hd : c.done = true
    · simp only [hd, ↓reduceIte]; exact Or.inl trivial
    · right
      refine ⟨c, List.mem_of_find?_eq_some hf, ?_, by simpa using hd, ?_⟩
      · have := List.find?_some hf; simpa using this
      · simp only [hd, Bool.false_eq_true, ↓reduceIte]

theorem Abs.shutdown_labs (a : Abs) (l n : Nat) : (a.shutdown l n).labs = a.labs := by
  rcases Abs.shutdown_cases a l n with heq | ⟨c, _, _, _, heq⟩ <;> rw [heq]
  show (a.conns.map (CoreC.shut l _)).map (·.label) ++ a.failed.map (·.1) = _
  rw [List.map_map]; congr 1; apply List.map_congr_left; intro y _; exact shut_label l _ y

theorem Inv.shutdown {cfg0 : HubCfg} {a : Abs} (h : Inv cfg0 a) (l n : Nat) (hn : a.uuid ≤ n) :
    Inv cfg0 (a.shutdown l n) := by
  rcases Abs.shutdown_cases a l n with heq | ⟨c, hc, hcl, hcd, heq⟩
  · rw [heq]; exact h
  have hlabs := a.shutdown_labs l n
  rw [heq] at hlabs ⊢
  generalize ho : (!a.closed && c.epoch == a.epoch) = o at hlabs ⊢
  have hcso : c.shutdownOpen = false := by
    cases hh : c.shutdownOpen
    · rfl
    · have := h.so_done c hc hh; rw [hcd] at this; cases this
  refine { cfg := h.cfg, so_done := ?_, ev_labels := ?_, ev_off := ?_, epoch_le := ?_, sids := ?_,
           idx_sub := ?_, index := ?_, ev_start := ?_, ev_end := ?_, ev_fail := ?_ }
  · refine List.forall_mem_map.2 fun y hy hxo => ?_
    by_cases hyl : y.label = l
    · rw [shut_of_eq l o y hyl]
    · rw [shut_of_ne l o y hyl] at hxo ⊢; exact h.so_done y hy hxo
  · refine ev_labels_of_labs (fun e hee => ?_)
    rw [hlabs]
    rcases List.mem_append.1 hee with he | he
    · exact h.ev_labs he
    · rw [round_label he, ← hcl]
      exact List.mem_append_left _ (List.mem_map_of_mem hc)
  · intro hoff
    rw [h.ev_off hoff, hoff]; rfl
  · refine List.forall_mem_map.2 fun y hy => ?_
    rw [shut_epoch]; exact h.epoch_le y hy
  · obtain ⟨ns, h1, h2, h3⟩ := h.sids
    refine ⟨ns, ?_, h2, fun m hm => Nat.lt_of_lt_of_le (h3 m hm) hn⟩
    rw [← h1]
    rw [List.map_map]; apply List.map_congr_left; intro y _; exact shut_sid l o y
  · intro x hx
    have hx' : x ∈ a.index := by
      cases o
      · exact hx
      · exact (List.mem_filter.1 hx).1
    obtain ⟨y, hy, hyx⟩ := h.idx_sub x hx'
    exact ⟨CoreC.shut l o y, List.mem_map_of_mem hy, by rw [shut_label]; exact hyx⟩
  · intro hnd hclosed
    rw [hlabs] at hnd
    have hnd' : (a.conns.map (·.label)).Nodup := labs_nodup_conns hnd
    have hidx := h.index hnd hclosed
    show (if o = true then a.index.filter (· != l) else a.index) =
      ((a.conns.map (CoreC.shut l o)).filter (fun x => !x.done && x.epoch == a.epoch)).map (·.label)
    rw [shut_filter_open, ← hidx]
    cases o with
    | true => rfl
    | false =>
      -- a connection of an earlier incarnation: it was not in the index
      rw [hclosed] at ho
      refine (List.filter_eq_self.2 fun x hx => ?_).symm
      rw [hidx] at hx
      obtain ⟨y, hy, rfl⟩ := List.mem_map.1 hx
      obtain ⟨hy, hp⟩ := List.mem_filter.1 hy
      rw [bne_iff_ne]
      intro hyl
      rw [eq_of_map_nodup (·.label) hnd' hy hc (hyl.trans hcl.symm)] at hp
      rw [Bool.not_false, Bool.true_and] at ho
      rw [ho, Bool.and_false] at hp
      cases hp
  · intro hnd hsub
    rw [hlabs] at hnd
    refine List.forall_mem_map.2 fun y hy => ?_
    rw [aevs_round, shut_label, shut_sels, h.ev_start hnd hsub y hy]
    simp
  · intro hnd hsub
    rw [hlabs] at hnd
    refine List.forall_mem_map.2 fun y hy => ?_
    rw [aevs_round, shut_label, shut_sels, h.ev_end hnd hsub y hy]
    by_cases hyl : y.label = l
    · -- the connection being shut down: nothing was announced for its end before
      have : y = c := eq_of_map_nodup (·.label) (labs_nodup_conns hnd) hy hc (by rw [hyl, hcl])
      rw [this, shut_of_eq l o c hcl, hcso]
      simp [hcl, show a.cfg.subscriptions = true from hsub]
    · rw [shut_of_ne l o y hyl]
      simp [Ne.symm hyl]
  · intro hnd hsub f hf
    rw [hlabs] at hnd
    have hne : ¬ l = f.1 := fun e => labs_nodup_disj hnd c hc f hf (hcl.trans e)
    rw [aevs_round, aevs_round]
    simpa [hne] using h.ev_fail hnd hsub f hf

/-! ### reachable states satisfy the invariant -/

theorem Gen.inv {cfg0 : HubCfg} {L : List Nat} {a b : Abs} (g : Gen L a b) (h : Inv cfg0 a) : Inv cfg0 b := by
  induction g with
  | refl a => exact h
  | bump n hn _ ih => exact ih (h.bump n hn)
  | shutdown l n hn _ ih => exact ih (h.shutdown l n hn)
  | connect c n hc hs hn he hd ho _ ih => exact ih (h.connect c n hc hs hn he hd ho)
  | fail l sels n hn _ ih => exact ih (h.fail l sels n hn)
  | close _ ih => exact ih h.close
  | restart _ ih => exact ih h.restart

/-- The labels in use after the steps: those before and those the steps used (up to order). -/
theorem Gen.labels {L : List Nat} {a b : Abs} (g : Gen L a b) : b.labs.Perm (a.labs ++ L) := by
  induction g with
  | refl a => simp
  | bump n hn _ ih => exact ih
  | @shutdown L a b l n hn _ ih => rw [Abs.shutdown_labs a l n] at ih; exact ih
  | @connect L a b c n hc hs hn he hd ho _ ih =>
    exact ih.trans (((a.connect_labs c n).append_right L).trans List.perm_middle.symm)
  | @fail L a b l sels n hn _ ih =>
    exact ih.trans (((a.fail_labs l sels n).append_right L).trans List.perm_middle.symm)
  | close _ ih => exact ih
  | restart _ ih => exact ih

theorem init_inv (cfg : HubCfg) (kind : Kind) (size cap : Nat) : Inv cfg (HubSt.init cfg kind size cap).abs where
  cfg := rfl
  so_done := fun c hc => by cases hc
  ev_labels := fun e he => by cases he
  ev_off := fun _ => rfl
  epoch_le := fun c hc => by cases hc
  sids := ⟨[], rfl, List.Pairwise.nil, fun n hn => by cases hn⟩
  idx_sub := fun l hl => by cases hl
  index := fun _ _ => rfl
  ev_start := fun _ _ c hc => by cases hc
  ev_end := fun _ _ c hc => by cases hc
  ev_fail := fun _ _ f hf => by cases hf

theorem reach_gen (ops : List HubOp) :
    ∃ L, L.Sublist (ops.filterMap HubOp.connectLabel) ∧
      Gen L (HubSt.init cfg kind size cap).abs (HubSt.reach M tokP tokS cfg kind size cap ops).abs :=
  Gen.of_run M tokP tokS ops (HubSt.init cfg kind size cap)

theorem reach_inv (ops : List HubOp) : Inv cfg (HubSt.reach M tokP tokS cfg kind size cap ops).abs := by
  obtain ⟨L, _, g⟩ := reach_gen M tokP tokS cfg kind size cap ops
  exact g.inv (init_inv cfg kind size cap)

theorem reach_cfg (ops : List HubOp) : (HubSt.reach M tokP tokS cfg kind size cap ops).cfg = cfg :=
  (reach_inv M tokP tokS cfg kind size cap ops).cfg

theorem reach_labels_nodup (ops : List HubOp) (hf : FreshLabels ops) :
    (HubSt.reach M tokP tokS cfg kind size cap ops).abs.labs.Nodup := by
  obtain ⟨L, hs, g⟩ := reach_gen M tokP tokS cfg kind size cap ops
  rw [g.labels.nodup_iff]
  show ([] ++ L).Nodup
  rw [List.nil_append]
  exact List.Nodup.sublist hs hf

/-! ### C18: `uuidOf` is injective below 16^12 -/

theorem hexDigitLower_inj : ∀ i, i < 16 → ∀ j, j < 16 → hexDigitLower i = hexDigitLower j → i = j := by
  decide +kernel

theorem hexFixed_length (w : Nat) : ∀ n, (hexFixed w n).length = w := by
  induction w with
  | zero => intro n; rfl
  | succ w ih => intro n; rw [hexFixed, List.length_append, ih]; rfl

theorem hexFixed_inj (w : Nat) : ∀ n m, n < 16 ^ w → m < 16 ^ w → hexFixed w n = hexFixed w m → n = m := by
  induction w with
  | zero => intro n m hn hm _; simp at hn hm; omega
  | succ w ih =>
    intro n m hn hm h
    rw [hexFixed, hexFixed] at h
    have hl : (hexFixed w (n / 16)).length = (hexFixed w (m / 16)).length := by
      rw [hexFixed_length, hexFixed_length]
    obtain ⟨h1, h2⟩ := List.append_inj h hl
    rw [Nat.pow_succ] at hn hm
    have e1 := ih (n / 16) (m / 16) (Nat.div_lt_of_lt_mul (by omega)) (Nat.div_lt_of_lt_mul (by omega)) h1
    have e2 := hexDigitLower_inj (n % 16) (Nat.mod_lt _ (by decide)) (m % 16) (Nat.mod_lt _ (by decide))
      (List.cons.inj h2).1
    omega

theorem uuidOf_inj {n m : Nat} (hn : n < 16 ^ 12) (hm : m < 16 ^ 12) (h : uuidOf n = uuidOf m) : n = m := by
  unfold uuidOf at h
  exact hexFixed_inj 12 n m hn hm (List.append_cancel_left h)

theorem nodup_map_uuidOf (ns : List Nat) (hp : ns.Pairwise (· < ·)) (hb : ∀ n ∈ ns, n < 16 ^ 12) :
    (ns.map uuidOf).Nodup :=
  List.pairwise_map.2 (hp.imp_of_mem fun hx hy hlt heq => Nat.ne_of_lt hlt (uuidOf_inj (hb _ hx) (hb _ hy) heq))

/-! ### C17: percent-escaping of ids (`Model/Subscriber`) -/

theorem unhex_hexUpper : ∀ n, n < 16 → unhexByte (hexDigitUpper n) = some n := by decide +kernel

theorem unreserved_facts : ∀ x, x < 256 → isUnreservedByte x = true →
    (Char.ofNat x ≠ '%' ∧ Char.ofNat x ≠ '+' ∧ (Char.ofNat x).toNat = x ∧ x < 128) := by
  decide +kernel

theorem queryUnescapeBytes_other (c : Char) (rest : Str) (h1 : c ≠ '%') (h2 : c ≠ '+') :
    queryUnescapeBytes (c :: rest) = (queryUnescapeBytes rest).map (c.toNat :: ·) := by
  rw [queryUnescapeBytes]
  · intro _ _ _ hc; exact absurd hc h1
  · intro hc; exact absurd hc h1
  · intro hc; exact absurd hc h2

theorem pctEncoded_other (c : Char) (rest : Str) (h1 : c ≠ '%') :
    pctEncoded (c :: rest) = (isUnreservedByte c.toNat && decide (c.toNat < 128) && pctEncoded rest) := by
  rw [pctEncoded]
  · intro _ _ _ hc; exact absurd hc h1
  · intro hc; exact absurd hc h1

theorem queryEscapeBytes_cons (b : Bool) (x : Nat) (xs : List Nat) :
    queryEscapeBytes b (x :: xs) = escapeByte b x ++ queryEscapeBytes b xs := by
  simp [queryEscapeBytes]

/-! ### C18: what `subDocsOf` lists -/

theorem mem_subDocsOf {cfg : HubCfg} {c : Conn} {topic : Str} {active : Bool} {d : Subscription} :
    d ∈ subDocsOf cfg M c topic active ↔
      ∃ t ∈ c.sels, (topic = [] ∨ (matchTopics M c.sels c.allowed [topic] false = true ∧ t = topic)) ∧
        d = { id := subscriptionId cfg.spacePlus t c.sid, subscriber := c.sid, topic := t,
              active := active, payload := c.payload } := by
  unfold subDocsOf getSubscriptions
  simp only [List.mem_map, List.mem_filter]
  constructor
  · rintro ⟨t, ⟨ht, hp⟩, rfl⟩
    refine ⟨t, ht, ?_, rfl⟩
    by_cases h0 : topic = []
    · exact Or.inl h0
    · right
      simp [h0] at hp
      exact hp
  · rintro ⟨t, ht, hp, rfl⟩
    refine ⟨t, ⟨ht, ?_⟩, rfl⟩
    rcases hp with h0 | ⟨h1, h2⟩
    · simp [h0]
    · simp [h1, h2]

/-! ### C20: open streams -/

theorem updConn_of_not_mem (l : List Conn) (lab : Nat) (f : Conn → Conn) (h : lab ∉ l.map (·.label)) :
    updConn l lab f = l := by
  unfold updConn
  induction l with
  | nil => rfl
  | cons x xs ih =>
    simp only [List.map_cons, List.mem_cons, not_or] at h
    have hx : (x.label == lab) = false := by
      simp only [beq_eq_false_iff_ne, ne_eq]; exact fun e => h.1 e.symm
    simp only [List.map_cons, hx, Bool.false_eq_true, if_false, ih h.2]

theorem undone_mark (l : List Conn) (lab : Nat) (c : Conn) (f : Conn → Conn)
    (hf : ∀ c, (f c).done = true) (hn : (l.map (·.label)).Nodup)
    (hg : getConn l lab = some c) (hd : c.done = false) :
    undone (updConn l lab f) + 1 = undone l := by
  induction l with
  | nil => cases hg
  | cons x xs ih =>
    simp only [List.map_cons, List.nodup_cons] at hn
    unfold getConn at hg
    simp only [List.find?_cons] at hg
    cases hx : (x.label == lab) with
    | true =>
      simp only [hx, Option.some.injEq] at hg
      subst hg
      have hl : x.label = lab := by simpa using hx
      have := updConn_of_not_mem xs lab f (hl ▸ hn.1)
      unfold updConn at this ⊢
      unfold undone
      simp only [List.map_cons, hx, if_true, this, List.filter_cons, hf x, hd, Bool.not_true, Bool.not_false,
        Bool.false_eq_true, if_false, List.length_cons]
    | false =>
      simp only [hx] at hg
      have := ih hn.2 hg
      unfold updConn at this ⊢
      unfold undone at this ⊢
      simp only [List.map_cons, hx, Bool.false_eq_true, if_false, List.filter_cons]
      split
      · simp only [List.length_cons]; omega
      · exact this

/-- Under distinct labels, as in `Inv`. -/
def CountInv (st : HubSt) : Prop :=
  (labels st).Nodup → st.openStreams = (undone st.conns : Int)

theorem CountInv.of_core {s t : HubSt} (hc : t.conns.map Conn.core = s.conns.map Conn.core)
    (ho : t.openStreams = s.openStreams) (h : CountInv s) : CountInv t := by
  intro hn
  rw [ho, undone_of_core hc]
  exact h (by rwa [labels_of_core hc] at hn)

theorem pres_count {M : Str → Str → Bool} : Pres M CountInv where
  dispatch st u h := by
    rcases dispatch_spec M st u with ⟨_, h2⟩ | ⟨_, u', s', uu', db', _, _, _, _, h2⟩ <;> rw [h2]
    · exact h
    · exact CountInv.of_core (s := st) (fanout_core M _ _ _ _) rfl h
  events st ev h := h
  pump st h := CountInv.of_core (s := st) (map_core Conn.pump_core _) rfl h
  shut st l c b' hg hd h := by
    intro hn
    have hl : labels (st.mark l b').decr = labels st := (presCore_labels (M := M) (labels st)).shut st l c b' hg hd rfl
    rw [hl] at hn
    have := undone_mark st.conns l c (fun c =>
              { c with closedOut := true, exited := true, done := true, shutdownOpen := b' })
              (fun _ => rfl) hn hg hd
    have h2 := h hn
    show st.openStreams - 1 = (undone (updConn st.conns l _) : Int)
    omega
  uuid st h := h
  pubOk st h := h
  tweak st l s fn clr h := by
    refine CountInv.of_core (s := st) ?_ rfl h
    apply updConn_core
    intro c; rfl
  closeMark st hc h := CountInv.of_core (s := st) (map_core (fun c => by split <;> rfl) _) rfl h
  reopen st leid db' _ _ h := h
  failed st fl h := h

theorem run_count {M : Str → Str → Bool} {tokP tokS : Str → Option Claims} (ops : List HubOp) (st : HubSt)
    (h : CountInv st) : CountInv (st.run M tokP tokS ops) := by
  refine pres_count.run tokP ?_ ops st h
  intro label st' resp conn _ hn h' hnd
  have e : labels (st'.addConn label resp conn) = labels st' ++ [label] := by
    unfold labels HubSt.addConn
    simp only [List.map_append, List.map_cons, List.map_nil, hn.label]
  rw [e] at hnd
  have h2 := h' (List.nodup_append.1 hnd).1
  unfold HubSt.addConn undone at *
  simp only [List.filter_append, List.length_append, List.filter_cons, hn.done, Bool.not_false, if_true,
    List.filter_nil, List.length_cons, List.length_nil]
  omega

end Mercure

import Mercure.Model.Claims
import Mercure.Lemmas.Json
/-
  Lemmas about Mercure.Model.Claims — the generic JSON parser reads back the compact serialiser, and the
  hub's decoding of what an issuer writes.
-/
namespace Mercure.ClaimsJson
open Mercure

/-! ### the store rules: small facts -/

theorem storeElems_bad (pre : List Str) (x : JVal) (post : List JVal)
    (hx : match x with | .str _ => False | .null => False | _ => True) :
    ∀ back, storeElems (pre.map JVal.str ++ x :: post) back = none := by
  induction pre with
  | nil => intro back; cases x <;> simp_all [storeElems]
  | cons a as ih => intro back; simp [storeElems, ih]

theorem storeElems_strs (l : List Str) : ∀ back, storeElems (l.map JVal.str) back = some l := by
  induction l with
  | nil => intro back; simp [storeElems]
  | cons a as ih => intro back; simp [storeElems, ih]

/-! ### string literals -/

/-- what `quote` writes for one character -/
def qc (c : Char) : Str :=
  if c == '"' then ['\\', '"'] else if c == '\\' then ['\\', '\\']
  else if c.toNat < 32 then ['\\', 'u'] ++ hex4 c.toNat else [c]

theorem quote_eq (s : Str) : quote s = '"' :: (s.flatMap qc ++ ['"']) := rfl

theorem hex4_eq (n : Nat) : hex4 n = Json.hex4 n := rfl

theorem qc_spells (c : Char) : Json.Spells c (qc c) := by
  unfold qc
  refine iteInduction (fun h => .of_beq h (.short '"' (by decide))) fun h1 => ?_
  refine iteInduction (fun h => .of_beq h (.short '\\' (by decide))) fun h2 => ?_
  exact iteInduction (fun h3 => .u (by omega)) fun h3 => .lit (by simpa using h1) (by simpa using h2) (by omega)

theorem parseStr_quote (s rest : Str) : Json.parseStr (quote s ++ rest) = some (s, rest) := by
  rw [quote_eq, List.cons_append, List.append_assoc]
  exact Json.parseStr_flatMap qc_spells s rest

/-! ### numerals -/

/-- what follows a numeral does not extend it -/
def okRest (rest : Str) : Prop :=
  rest.head?.all (fun c => !(c.isDigit || c == '.' || c == 'e' || c == 'E' || c == '+' || c == '-')) = true

/-- `raw` is a numeral the parser reads back as it is written, in every context that does not extend it -/
def NumOK (raw : Str) : Prop := ∀ rest, okRest rest → parseNum (raw ++ rest) = some (raw, rest)

theorem okRest_nil : okRest [] := by simp [okRest]
theorem okRest_comma (r : Str) : okRest (',' :: r) := by simp [okRest]
theorem okRest_rbracket (r : Str) : okRest (']' :: r) := by simp [okRest]
theorem okRest_rbrace (r : Str) : okRest ('}' :: r) := by simp [okRest]

theorem parseNum_nondigit (c : Char) (r : Str) (h1 : c ≠ '-') (h2 : c.isDigit = false) :
    parseNum (c :: r) = none := by
  unfold parseNum
  split
  rename_i heq
  split at heq
  · rename_i heq2; simp at heq2; exact absurd heq2.1 h1
  · cases heq
    simp [h2]

theorem parseNum_head (s a b : Str) (h : parseNum s = some (a, b)) :
    ∃ c r, s = c :: r ∧ (c = '-' ∨ c.isDigit = true) := by
  cases s with
  | nil => simp [parseNum] at h
  | cons c r =>
    refine ⟨c, r, rfl, ?_⟩
    by_cases h1 : c = '-'
    · exact .inl h1
    by_cases h2 : c.isDigit = true
    · exact .inr h2
    · rw [parseNum_nondigit c r h1 (by simpa using h2)] at h
      cases h

theorem NumOK_head (raw : Str) (h : NumOK raw) : ∃ c r, raw = c :: r ∧ (c = '-' ∨ c.isDigit = true) := by
  have := h [] okRest_nil
  rw [List.append_nil] at this
  exact parseNum_head _ _ _ this

theorem okRest_cons (x : Char) (xs : Str) (h : okRest (x :: xs)) :
    x.isDigit = false ∧ x ≠ '.' ∧ x ≠ 'e' ∧ x ≠ 'E' := by
  simp [okRest] at h
  simp [h]

theorem numOK_toDigits (n : Nat) : NumOK (Nat.toDigits 10 n) := by
  intro rest hr
  have hr' : ∀ c, rest.head? = some c → c.isDigit = false := by
    intro c hc
    cases rest with
    | nil => simp at hc
    | cons x xs => simp at hc; subst hc; exact (okRest_cons _ _ hr).1
  -- the digits stop where `rest` begins
  obtain ⟨h1, h2⟩ := Json.takeWhile_digits_append _ _ (Json.toDigits_isDigit n) hr'
  have hne : Nat.toDigits 10 n ≠ [] := Nat.toDigits_ne_nil
  have hlead := Json.toDigits_no_leading_zero n
  unfold parseNum
  split
  rename_i heq
  split at heq
  · rename_i heq2; exact absurd heq2 (Json.toDigits_append_ne_minus n _ _)  -- no sign
  · cases heq
    simp only [h1, h2]
    -- no fraction and no exponent: `rest` begins with neither '.' nor 'e' / 'E'
    cases rest with
    | nil => simp [hne, hlead]
    | cons x xs =>
      obtain ⟨_, hx1, hx2, hx3⟩ := okRest_cons x xs hr
      simp [hne, hlead]
      split
      · rename_i heq
        split at heq
        · rename_i heq2; simp at heq2; exact absurd heq2.1 hx1
        · cases heq
      · rename_i frac r2 heq
        split at heq
        · rename_i heq2; simp at heq2; exact absurd heq2.1 hx1
        · cases heq
          simp [hx2, hx3]

theorem truncSeconds_toDigits (n : Nat) : truncSeconds (Nat.toDigits 10 n) = (n, false) := by
  have h12 := Json.takeWhile_digits_append (Nat.toDigits 10 n) [] (Json.toDigits_isDigit n) (by simp)
  rw [List.append_nil] at h12
  obtain ⟨h1, h2⟩ := h12
  unfold truncSeconds
  split
  rename_i heq
  split at heq
  · rename_i heq2; exact absurd ((List.append_nil _).trans heq2) (Json.toDigits_append_ne_minus n [] _)
  · cases heq
    simp [h1, h2, Nat.ofDigitChars_ten_toDigits]

/-! ### the parser reads back the serialiser -/

mutual
/-- every number inside the value is a numeral the parser reads back as written -/
def WellFormedNums : JVal → Prop
  | .num raw => NumOK raw
  | .arr xs => WellFormedList xs
  | .obj kvs => WellFormedMembers kvs
  | _ => True

def WellFormedList : List JVal → Prop
  | [] => True
  | x :: xs => WellFormedNums x ∧ WellFormedList xs

def WellFormedMembers : List (Str × JVal) → Prop
  | [] => True
  | (_, v) :: kvs => WellFormedNums v ∧ WellFormedMembers kvs
end

mutual
/-- fuel that suffices to parse the rendering of a value -/
def sz : JVal → Nat
  | .arr xs => 1 + szL xs
  | .obj kvs => 1 + szM kvs
  | _ => 1

def szL : List JVal → Nat
  | [] => 0
  | x :: xs => 1 + sz x + szL xs

def szM : List (Str × JVal) → Nat
  | [] => 0
  | (_, v) :: kvs => 1 + sz v + szM kvs
end

theorem sz_pos (v : JVal) : 1 ≤ sz v := by
  cases v <;> simp [sz]

theorem skipWs_cons (c : Char) (r : Str) (h : isWs c = false) : skipWs (c :: r) = c :: r := by
  simp [skipWs, h]

theorem isDigit_not_ws (c : Char) (h : c.isDigit = true) : isWs c = false := by
  simp [isWs]
  refine ⟨⟨⟨?_, ?_⟩, ?_⟩, ?_⟩ <;> (rintro rfl; revert h; decide)

/-- the first character of a rendered value: not white space, not a closing bracket -/
def StartOK (s : Str) : Prop := ∃ c t, s = c :: t ∧ isWs c = false ∧ c ≠ ']' ∧ c ≠ '}'

theorem startOK_render (v : JVal) (h : WellFormedNums v) : StartOK (render v) := by
  cases v with
  | null => exact ⟨'n', "ull".toList, by decide, by decide, by decide, by decide⟩
  | bool b => cases b
              · exact ⟨'f', "alse".toList, by decide, by decide, by decide, by decide⟩
              · exact ⟨'t', "rue".toList, by decide, by decide, by decide, by decide⟩
  | num raw =>
    obtain ⟨c, r, rfl, hc⟩ := NumOK_head raw (by simpa [WellFormedNums] using h)
    refine ⟨c, r, by simp [render], ?_⟩
    rcases hc with rfl | hc
    · decide
    · refine ⟨isDigit_not_ws c hc, ?_, ?_⟩ <;> (rintro rfl; revert hc; decide)
  | str s => exact ⟨'"', _, rfl, by decide, by decide, by decide⟩
  | arr xs => exact ⟨'[', _, rfl, by decide, by decide, by decide⟩
  | obj kvs => exact ⟨'{', _, rfl, by decide, by decide, by decide⟩

theorem parseVal_num (f : Nat) (raw rest : Str) (h : NumOK raw) (hr : okRest rest) :
    parseVal (f + 1) (raw ++ rest) = some (.num raw, rest) := by
  obtain ⟨c, r, rfl, hc⟩ := NumOK_head raw h
  have hp := h rest hr
  have hws : isWs c = false := by
    rcases hc with rfl | hc
    · decide
    · exact isDigit_not_ws c hc
  rw [parseVal]
  simp only [List.cons_append] at hp ⊢
  rw [skipWs_cons _ _ hws]
  split
  all_goals first
    | (rename_i heq; simp only [List.cons.injEq] at heq; exfalso
       obtain ⟨rfl, _⟩ := heq
       rcases hc with hc | hc <;> revert hc <;> decide)
    | skip
  rw [hp]; rfl

theorem parseVal_str (f : Nat) (s rest : Str) : parseVal (f + 1) (quote s ++ rest) = some (.str s, rest) := by
  rw [show parseVal (f + 1) (quote s ++ rest) = (Json.parseStr (quote s ++ rest)).map (fun (v, r) => (.str v, r))
    from rfl, parseStr_quote]
  rfl

theorem renderList_cons_start (x : JVal) (xs : List JVal) (h : WellFormedNums x) :
    StartOK (renderList (x :: xs)) := by
  obtain ⟨c, u, hc, h1, h2, h3⟩ := startOK_render x h
  cases xs with
  | nil => exact ⟨c, u, by simp [renderList, hc], h1, h2, h3⟩
  | cons y ys => exact ⟨c, _, by simp [renderList, hc]; rfl, h1, h2, h3⟩

theorem skipWs_comma (r : Str) : skipWs (',' :: r) = ',' :: r := rfl
theorem skipWs_colon (r : Str) : skipWs (':' :: r) = ':' :: r := rfl
theorem skipWs_rbracket (r : Str) : skipWs (']' :: r) = ']' :: r := rfl
theorem skipWs_rbrace (r : Str) : skipWs ('}' :: r) = '}' :: r := rfl
theorem skipWs_quote (k t : Str) : skipWs (quote k ++ t) = quote k ++ t := rfl

/-- after `[`, what follows is not `]`: the elements are parsed -/
theorem parseVal_lbracket (f : Nat) {s : Str} (h : StartOK s) (t : Str) :
    parseVal (f + 1) ('[' :: (s ++ t)) = parseElems f (s ++ t) [] := by
  obtain ⟨c, u, rfl, h1, h2, _⟩ := h
  rw [parseVal, show skipWs ('[' :: (c :: u ++ t)) = '[' :: (c :: u ++ t) from rfl]
  simp only [List.cons_append, skipWs_cons c _ h1]
  split
  · rename_i heq; exact absurd (List.cons.inj heq).1 h2
  · rfl

/-- after `{`, what follows is not `}`: the members are parsed -/
theorem parseVal_lbrace (f : Nat) {s : Str} (h : StartOK s) (t : Str) :
    parseVal (f + 1) ('{' :: (s ++ t)) = parseMembers f (s ++ t) [] := by
  obtain ⟨c, u, rfl, h1, _, h3⟩ := h
  rw [parseVal, show skipWs ('{' :: (c :: u ++ t)) = '{' :: (c :: u ++ t) from rfl]
  simp only [List.cons_append, skipWs_cons c _ h1]
  split
  · rename_i heq; exact absurd (List.cons.inj heq).1 h3
  · rfl

theorem renderMembers_cons_start (kv : Str × JVal) (kvs : List (Str × JVal)) :
    StartOK (renderMembers (kv :: kvs)) := by
  obtain ⟨k, v⟩ := kv
  cases kvs <;> exact ⟨'"', _, rfl, by decide, by decide, by decide⟩

mutual
theorem parseVal_render : (v : JVal) → WellFormedNums v → ∀ (fuel : Nat) (rest : Str), sz v ≤ fuel → okRest rest →
    parseVal fuel (render v ++ rest) = some (v, rest)
  | v, _, 0, _, hf, _ => absurd hf (Nat.not_le_of_gt (sz_pos v))
  | .null, _, _ + 1, _, _, _ => rfl
  | .bool true, _, _ + 1, _, _, _ => rfl
  | .bool false, _, _ + 1, _, _, _ => rfl
  | .num raw, hw, f + 1, rest, _, hr => parseVal_num f raw rest (by simpa [WellFormedNums] using hw) hr
  | .str s, _, f + 1, rest, _, _ => parseVal_str f s rest
  | .arr [], _, f + 1, rest, _, _ => rfl
  | .arr (x :: xs), hw, f + 1, rest, hf, _ => by
    have hw' : WellFormedList (x :: xs) := by simpa [WellFormedNums] using hw
    have ih := parseElems_render (x :: xs) (by simp) hw' f rest [] (by simp [sz] at hf; omega)
    simp only [render, List.cons_append, List.append_assoc, List.nil_append]
    rw [parseVal_lbracket f (renderList_cons_start x xs hw'.1), ih]; rfl
  | .obj [], _, f + 1, rest, _, _ => rfl
  | .obj ((k, v) :: kvs), hw, f + 1, rest, hf, _ => by
    have hw' : WellFormedMembers ((k, v) :: kvs) := by simpa [WellFormedNums] using hw
    have ih := parseMembers_render ((k, v) :: kvs) (by simp) hw' f rest [] (by simp [sz] at hf; omega)
    simp only [render, List.cons_append, List.append_assoc, List.nil_append]
    rw [parseVal_lbrace f (renderMembers_cons_start (k, v) kvs), ih]; rfl

theorem parseElems_render : (xs : List JVal) → xs ≠ [] → WellFormedList xs →
    ∀ (fuel : Nat) (rest : Str) (acc : List JVal), szL xs ≤ fuel →
    parseElems fuel (renderList xs ++ ']' :: rest) acc = some (.arr (acc.reverse ++ xs), rest)
  | [], h, _, _, _, _, _ => absurd rfl h
  | x :: xs, _, hw, 0, _, _, hf => absurd hf (by simp [szL])
  | [x], _, hw, f + 1, rest, acc, hf => by
    have ih := parseVal_render x hw.1 f (']' :: rest) (by simp [szL] at hf; omega) (okRest_rbracket rest)
    simp [parseElems, renderList, ih, skipWs_rbracket]
  | x :: y :: tl, _, hw, f + 1, rest, acc, hf => by
    have ih := parseVal_render x hw.1 f (',' :: (renderList (y :: tl) ++ ']' :: rest))
      (by simp [szL] at hf; omega) (okRest_comma _)
    have ih2 := parseElems_render (y :: tl) (by simp) hw.2 f rest (x :: acc) (by simp [szL] at hf ⊢; omega)
    simp [parseElems, renderList, ih, ih2, skipWs_comma]

theorem parseMembers_render : (kvs : List (Str × JVal)) → kvs ≠ [] → WellFormedMembers kvs →
    ∀ (fuel : Nat) (rest : Str) (acc : List (Str × JVal)), szM kvs ≤ fuel →
    parseMembers fuel (renderMembers kvs ++ '}' :: rest) acc = some (.obj (acc.reverse ++ kvs), rest)
  | [], h, _, _, _, _, _ => absurd rfl h
  | kv :: kvs, _, hw, 0, _, _, hf => absurd hf (by cases kv; simp [szM])
  | [(k, v)], _, hw, f + 1, rest, acc, hf => by
    have ih := parseVal_render v hw.1 f ('}' :: rest) (by simp [szM] at hf; omega) (okRest_rbrace rest)
    simp [parseMembers, renderMembers, skipWs_quote, parseStr_quote, skipWs_colon, ih, skipWs_rbrace]
  | (k, v) :: kv2 :: tl, _, hw, f + 1, rest, acc, hf => by
    have ih := parseVal_render v hw.1 f (',' :: (renderMembers (kv2 :: tl) ++ '}' :: rest))
      (by simp [szM] at hf; omega) (okRest_comma _)
    have ih2 := parseMembers_render (kv2 :: tl) (by simp) hw.2 f rest ((k, v) :: acc) (by simp [szM] at hf ⊢; omega)
    simp [parseMembers, renderMembers, skipWs_quote, parseStr_quote, skipWs_colon, ih, skipWs_comma, ih2]
end

/-! The fuel `parseJSON` gives `parseVal`, `2 * length + 2`, is enough: `sz` is bounded by twice the rendered length. -/
mutual
theorem sz_le : (v : JVal) → sz v ≤ 2 * (render v).length + 1
  | .null => by simp [sz]
  | .bool _ => by simp [sz]
  | .num _ => by simp [sz]
  | .str _ => by simp [sz]
  | .arr xs => by
    have := szL_le xs
    simp [sz, render] at this ⊢; omega
  | .obj kvs => by
    have := szM_le kvs
    simp [sz, render] at this ⊢; omega

theorem szL_le : (xs : List JVal) → szL xs ≤ 2 * (renderList xs).length + 2
  | [] => by simp [szL]
  | [x] => by
    have := sz_le x
    simp [szL, renderList] at this ⊢; omega
  | x :: y :: tl => by
    have := sz_le x
    have := szL_le (y :: tl)
    simp [szL, renderList] at *; omega

theorem szM_le : (kvs : List (Str × JVal)) → szM kvs ≤ 2 * (renderMembers kvs).length + 2
  | [] => by simp [szM]
  | [(k, v)] => by
    have := sz_le v
    simp [szM, renderMembers] at this ⊢; omega
  | (k, v) :: kv2 :: tl => by
    have := sz_le v
    have := szM_le (kv2 :: tl)
    simp [szM, renderMembers] at *; omega
end

/-- **The generic parser reads back the compact serialiser.** -/
theorem parseJSON_render (v : JVal) (h : WellFormedNums v) : parseJSON (render v) = some v := by
  have := parseVal_render v h (2 * (render v).length + 2) [] (by have := sz_le v; omega) okRest_nil
  rw [List.append_nil] at this
  simp [parseJSON, this, skipWs]

/-! ### what an issuer writes, as a value -/
def optV : Option (List Str) → JVal
  | none => .null
  | some l => .arr (l.map JVal.str)

def mV (p s : Option (List Str)) : JVal :=
  .obj [("publish".toList, optV p), ("subscribe".toList, optV s)]

theorem render_optV (o : Option (List Str)) : render (optV o) = optArray o := by
  cases o <;> simp [optV, optArray, render, strArray]

theorem renderMembers_one (k : Str) (v : JVal) : renderMembers [(k, v)] = quote k ++ ':' :: render v := by
  simp [renderMembers]

theorem renderMembers_cons_cons (k : Str) (v : JVal) (kv : Str × JVal) (tl : List (Str × JVal)) :
    renderMembers ((k, v) :: kv :: tl) = quote k ++ ':' :: (render v ++ ',' :: renderMembers (kv :: tl)) := by
  simp [renderMembers]

theorem render_mV (p s : Option (List Str)) : render (mV p s) = encodeM p s := by
  unfold mV encodeM
  -- the serialiser is written with string literals, `render` with `quote`: the two agree on the fixed keys
  have q1 : quote "publish".toList = "\"publish\"".toList := by decide +kernel
  have q2 : quote "subscribe".toList = "\"subscribe\"".toList := by decide +kernel
  rw [render, renderMembers_cons_cons, renderMembers_one, q1, q2, render_optV, render_optV]
  have l1 : "{\"publish\":".toList = '{' :: ("\"publish\"".toList ++ [':']) := by decide +kernel
  have l2 : ",\"subscribe\":".toList = ',' :: ("\"subscribe\"".toList ++ [':']) := by decide +kernel
  rw [l1, l2]
  simp only [List.append_assoc, List.cons_append, List.nil_append]

def encodeV (p s : Option (List Str)) (ns : Option (Option (List Str) × Option (List Str))) (e : Option Nat) : JVal :=
  .obj (("mercure".toList, mV p s) ::
    ((match ns with
      | none => []
      | some (np, nsub) => [("https://mercure.rocks/".toList, mV np nsub)]) ++
     (match e with
      | none => []
      | some e => [("exp".toList, JVal.num (Nat.toDigits 10 e))])))

theorem render_num (raw : Str) : render (.num raw) = raw := by simp [render]

theorem render_encodeV (p s : Option (List Str)) (ns : Option (Option (List Str) × Option (List Str))) (e : Option Nat) :
    render (encodeV p s ns e) = encode p s ns e := by
  unfold encodeV encode
  have q2 : quote "https://mercure.rocks/".toList = "\"https://mercure.rocks/\"".toList := by decide +kernel
  have q3 : quote "mercure".toList = "\"mercure\"".toList := by decide +kernel
  have q4 : quote "exp".toList = "\"exp\"".toList := by decide +kernel
  have l3 : "{\"mercure\":".toList = '{' :: ("\"mercure\"".toList ++ [':']) := by decide +kernel
  have l4 : ",\"https://mercure.rocks/\":".toList = ',' :: ("\"https://mercure.rocks/\"".toList ++ [':']) := by
    decide +kernel
  have l5 : ",\"exp\":".toList = ',' :: ("\"exp\"".toList ++ [':']) := by decide +kernel
  rw [render, l3]
  rcases ns with _ | ⟨np, nsub⟩ <;> rcases e with _ | e <;>
    simp only [List.append_nil, List.nil_append, List.cons_append, renderMembers_one, renderMembers_cons_cons,
      render_mV, q2, q3, q4, l4, l5, render_num, List.append_assoc]

theorem wf_strs (l : List Str) : WellFormedList (l.map JVal.str) := by
  induction l with
  | nil => simp [WellFormedList]
  | cons a as ih => simp [WellFormedList, WellFormedNums, ih]

theorem wf_optV (o : Option (List Str)) : WellFormedNums (optV o) := by
  cases o with
  | none => simp [optV, WellFormedNums]
  | some l => simp [optV, WellFormedNums, wf_strs]

theorem wf_mV (p s : Option (List Str)) : WellFormedNums (mV p s) := by
  simp [mV, WellFormedNums, WellFormedMembers, wf_optV]

theorem wf_encodeV (p s : Option (List Str)) (ns : Option (Option (List Str) × Option (List Str))) (e : Option Nat) :
    WellFormedNums (encodeV p s ns e) := by
  rcases ns with _ | ⟨np, nsub⟩ <;> rcases e with _ | e <;>
    simp [encodeV, WellFormedNums, WellFormedMembers, wf_mV, numOK_toDigits]

/-! ### storing what an issuer writes -/

theorem storeStrings_optV (back : List Str) (o : Option (List Str)) :
    ∃ b, storeStrings back (optV o) = some (o, b) := by
  cases o with
  | none => exact ⟨[], by simp [optV, storeStrings]⟩
  | some l =>
    cases l with
    | nil => exact ⟨[], by simp [optV, storeStrings]⟩
    | cons a as =>
      have h := storeElems_strs (a :: as) back
      simp only [List.map_cons] at h
      exact ⟨_, by simp only [optV, List.map_cons, storeStrings, h]; rfl⟩

theorem selM_publish : selectField mFields "publish".toList = some "publish".toList := by decide +kernel
theorem selM_subscribe : selectField mFields "subscribe".toList = some "subscribe".toList := by decide +kernel
theorem selC_mercure : selectField cFields "mercure".toList = some "mercure".toList := by decide +kernel
theorem selC_ns : selectField cFields "https://mercure.rocks/".toList = some "https://mercure.rocks/".toList := by
  decide +kernel

theorem selC_exp : selectField cFields "exp".toList = some "exp".toList := by decide +kernel
theorem ne_sub_pub : ("subscribe".toList == "publish".toList) = false := by decide +kernel
theorem ne_ns_mercure : ("https://mercure.rocks/".toList == "mercure".toList) = false := by decide +kernel
theorem ne_exp_mercure : ("exp".toList == "mercure".toList) = false := by decide +kernel
theorem ne_exp_ns : ("exp".toList == "https://mercure.rocks/".toList) = false := by decide +kernel

theorem storeMembersM_mV (p s : Option (List Str)) (m : M) :
    ∃ b1 b2, storeMembersM [("publish".toList, optV p), ("subscribe".toList, optV s)] m =
      some { publish := p, subscribe := s, payload := m.payload, pubBack := b1, subBack := b2 } := by
  obtain ⟨b1, h1⟩ := storeStrings_optV m.pubBack p
  obtain ⟨b2, h2⟩ := storeStrings_optV m.subBack s
  refine ⟨b1, b2, ?_⟩
  simp only [storeMembersM, selM_publish, selM_subscribe, ne_sub_pub, h1, h2, beq_self_eq_true, if_true,
    Bool.false_eq_true, if_false]

theorem toClaim_mV (p s : Option (List Str)) (m : M) (hm : m.payload = none) :
    (storeMembersM [("publish".toList, optV p), ("subscribe".toList, optV s)] m).map M.toClaim =
      some { publish := p, subscribe := s, payload := [] } := by
  obtain ⟨b1, b2, h⟩ := storeMembersM_mV p s m
  rw [h]
  simp only [Option.map_some, M.toClaim, hm]

theorem storeC_mercure (p s : Option (List Str)) (rest : List (Str × JVal)) (c : C) :
    ∃ b1 b2, storeMembersC (("mercure".toList, mV p s) :: rest) c =
      storeMembersC rest { c with mercure :=
        { publish := p, subscribe := s, payload := c.mercure.payload, pubBack := b1, subBack := b2 } } := by
  obtain ⟨b1, b2, h⟩ := storeMembersM_mV p s c.mercure
  refine ⟨b1, b2, ?_⟩
  rw [storeMembersC, selC_mercure]
  simp only [beq_self_eq_true, if_true, mV, storeM, h]

theorem storeC_ns (p s : Option (List Str)) (rest : List (Str × JVal)) (c : C) :
    ∃ b1 b2, storeMembersC (("https://mercure.rocks/".toList, mV p s) :: rest) c =
      storeMembersC rest { c with namespaced := some (
          { publish := p, subscribe := s, payload := (c.namespaced.getD ({} : M)).payload,
            pubBack := b1, subBack := b2 } : M) } := by
  obtain ⟨b1, b2, h⟩ := storeMembersM_mV p s (c.namespaced.getD {})
  refine ⟨b1, b2, ?_⟩
  rw [storeMembersC, selC_ns]
  simp only [beq_self_eq_true, if_true, ne_ns_mercure, Bool.false_eq_true, if_false, mV, storeMPtr, h, Option.map_some]

theorem storeC_exp (e : Nat) (rest : List (Str × JVal)) (c : C) :
    storeMembersC (("exp".toList, JVal.num (Nat.toDigits 10 e)) :: rest) c =
      storeMembersC rest { c with exp := some (e, false) } := by
  rw [storeMembersC, selC_exp]
  simp only [beq_self_eq_true, if_true, ne_exp_mercure, ne_exp_ns, Bool.false_eq_true, if_false, storeDate,
    truncSeconds_toDigits]

theorem storeMembersC_nil (c : C) : storeMembersC [] c = some c := by rw [storeMembersC]

/-- **What an issuer writes is what the hub reads.** -/
theorem claimsOf_encode (p s : Option (List Str)) (ns : Option (Option (List Str) × Option (List Str))) (e : Option Nat) :
    claimsOf (encode p s ns e) =
      some { mercure := { publish := p, subscribe := s, payload := [] },
             namespaced := ns.map fun (np, nsub) => { publish := np, subscribe := nsub, payload := [] },
             exp := e } := by
  unfold claimsOf decode
  rw [← render_encodeV, parseJSON_render _ (wf_encodeV p s ns e)]
  simp only [encodeV]
  obtain ⟨b1, b2, h1⟩ := storeC_mercure p s
    ((match ns with
      | none => []
      | some (np, nsub) => [("https://mercure.rocks/".toList, mV np nsub)]) ++
     (match e with
      | none => []
      | some e => [("exp".toList, JVal.num (Nat.toDigits 10 e))])) {}
  rw [h1]
  rcases ns with _ | ⟨np, nsub⟩ <;> rcases e with _ | e
  · simp only [List.append_nil, storeMembersC_nil, Option.map_some, M.toClaim, Option.map_none]
  · simp only [List.nil_append]
    rw [storeC_exp]
    simp only [storeMembersC_nil, Option.map_some, M.toClaim, Option.map_none]
  · obtain ⟨b3, b4, h2⟩ := storeC_ns np nsub []
      { mercure := { publish := p, subscribe := s, payload := none, pubBack := b1, subBack := b2 } }
    simp only [List.append_nil]
    rw [h2]
    simp only [storeMembersC_nil, Option.map_some, M.toClaim, Option.getD_none, Option.map_none]
  · obtain ⟨b3, b4, h2⟩ := storeC_ns np nsub [("exp".toList, JVal.num (Nat.toDigits 10 e))]
      { mercure := { publish := p, subscribe := s, payload := none, pubBack := b1, subBack := b2 } }
    simp only [List.cons_append, List.nil_append]
    rw [h2, storeC_exp]
    simp only [storeMembersC_nil, Option.map_some, M.toClaim, Option.getD_none]

/-- … and the claim in effect is the namespaced one whenever it is present. -/
theorem effective_of_encode (p s : Option (List Str)) (ns : Option (Option (List Str) × Option (List Str))) (e : Option Nat) :
    ((claimsOf (encode p s ns e)).map Claims.effective).map (·.mercure) =
      some (match ns with
        | none => { publish := p, subscribe := s, payload := [] }
        | some (np, nsub) => { publish := np, subscribe := nsub, payload := [] }) := by
  rw [claimsOf_encode]
  rcases ns with _ | ⟨np, nsub⟩ <;> simp [Claims.effective]

end Mercure.ClaimsJson

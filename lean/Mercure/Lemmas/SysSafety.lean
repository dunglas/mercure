import Mercure.Lemmas.SysTrans
/-
  Lemmas for C13 / C14 / C15 over the region-level model (`Mercure.Sys`), repaired flags.

  Two invariants, each kept by the canonical effect `Stream.upd` under conditions on its arguments (`locks_upd`,
  `closing_upd`) and hence by every transition: `Locks` (flag and channel of a subscriber change only under its
  `outMutex`, and agree whenever it is free: no send on / close of a closed channel, closed ⇒ flagged, at
  quiescence flagged ⇔ closed) and `Closing` (the walk of `Close` leaves every subscriber it found flagged).
  `reach_inv`: reachable states do not panic, so the invariants of the other files need only be kept by the transitions.
  `send_never_waits`, `waits_only_for_locks`, `closed_is_stable`, `after_close_rejected` are facts about `step`
  alone, for all flags.
-/
namespace Mercure.Sys.Safety
open Mercure.Sys
open Mercure.Sys.Stream (Trans Adm VS WF upd updSub updSub_some getSub_upd getSub_updSub_cases getSub_setSub_self
  getSub_of_ge upd_threads_self upd_threads_other upd_tr upd_panic topParked flushStack)

/-! ### projections (the equations of `SysTrans`, under this namespace's names; `simp` finds either), and the repaired flags -/

@[simp] theorem setThread_tr (σ : Sys) (i f) : (setThread σ i f).tr = σ.tr := rfl

@[simp] theorem setThread_subs (σ : Sys) (i f) : (setThread σ i f).subs = σ.subs := rfl

@[simp] theorem setThread_flags (σ : Sys) (i f) : (setThread σ i f).flags = σ.flags := rfl

@[simp] theorem setThread_panic (σ : Sys) (i f) : (setThread σ i f).panic = σ.panic := rfl

@[simp] theorem setTr_tr (σ : Sys) (f) : (setTr σ f).tr = f σ.tr := rfl

@[simp] theorem setTr_subs (σ : Sys) (f) : (setTr σ f).subs = σ.subs := rfl

@[simp] theorem setTr_threads (σ : Sys) (f) : (setTr σ f).threads = σ.threads := rfl

@[simp] theorem setTr_flags (σ : Sys) (f) : (setTr σ f).flags = σ.flags := rfl

@[simp] theorem setTr_panic (σ : Sys) (f) : (setTr σ f).panic = σ.panic := rfl

@[simp] theorem setSub_tr (σ : Sys) (s f) : (setSub σ s f).tr = σ.tr := rfl

@[simp] theorem setSub_threads (σ : Sys) (s f) : (setSub σ s f).threads = σ.threads := rfl

@[simp] theorem setSub_flags (σ : Sys) (s f) : (setSub σ s f).flags = σ.flags := rfl

@[simp] theorem setSub_panic (σ : Sys) (s f) : (setSub σ s f).panic = σ.panic := rfl

theorem retOf_stack (stk : List Frame) (t : Thread) (r : Option Ret) (last : Option Bool) :
    (retOf stk t r last).stack = stk := rfl

@[simp] theorem rep1 : Flags.repaired.closeOnOverflow = true := rfl

@[simp] theorem rep2 : Flags.repaired.readyGuard = true := rfl

@[simp] theorem rep3 : Flags.repaired.disconnectRecheck = true := rfl

@[simp] theorem rep4 : Flags.repaired.localMatchLocked = true := rfl

@[simp] theorem rep5 : Flags.repaired.lastSeqOnOpen = true := rfl

@[simp] theorem rep6 : Flags.repaired.cutBeforeDispatch = true := rfl

/-! ### `outMutex`: the flag and the channel -/

/-- The part of a subscriber the safety argument looks at: the flag, the channel, the holder of `outMutex`. -/
def vw (b : Sub) : Bool × Bool × Option Nat := (b.disconnected, b.outClosed, b.outOwner)

theorem vw_eq {b b' : Sub} (h : vw b' = vw b) :
    b'.disconnected = b.disconnected ∧ b'.outClosed = b.outClosed ∧ b'.outOwner = b.outOwner :=
  ⟨congrArg (·.1) h, congrArg (·.2.1) h, congrArg (·.2.2) h⟩

/-- What the holder of `outMutex` knows of flag and channel: having just taken the lock, that they agree (`none`);
    having read or stored the flag under the lock, its value, and that the channel is open (`some v`). -/
def Phase (b : Sub) : Option Bool → Prop
  | none => b.disconnected = b.outClosed
  | some v => b.disconnected = v ∧ b.outClosed = false

theorem Phase.of_vw {b b' : Sub} {k : Option Bool} (h : vw b' = vw b) (hp : Phase b k) : Phase b' k := by
  obtain ⟨h1, h2, -⟩ := vw_eq h
  cases k <;> simp only [Phase, h1, h2] <;> exact hp

/-- The critical section of `outMutex` a frame is in: whose, and what the frame knows there. Each of `Dispatch`,
    `Ready`, `Disconnect` locks, re-reads the flag (`none` up to here), then either unlocks and returns or goes on
    with the flag clear (`some false`: the sends) and, on overflow or in `Disconnect`, stores it (`some true`
    from here) and closes the channel. -/
def claim : Frame → Option (Nat × Option Bool)
  | .sDispatch s _ _ pc =>
    match pc with
    | 0 | 1 | 2 | 3 => none | 4 => some (s, none) | 5 | 6 => some (s, some false) | _ => some (s, some true)
  | .sReady s pc _ =>
    match pc with
    | 0 | 1 => none | 2 => some (s, none) | 5 => some (s, some true) | _ => some (s, some false)
  | .sDisconnect s pc =>
    match pc with
    | 0 | 1 => none | 2 => some (s, none) | 3 => some (s, some false) | _ => some (s, some true)
  | _ => none

/-- The critical section a thread is in (by `VS` only its top frame can be in one). -/
def region (st : List Frame) : Option (Nat × Option Bool) := st.findSome? claim

/-- A thread inside a critical section holds the lock and knows what `Phase` says; a free lock means that
    flag and channel agree; a held lock is held by a thread inside the critical section. -/
structure Locks (σ : Sys) : Prop where
  panic : σ.panic = none
  frame : ∀ (j : Nat) (th : Thread), σ.threads[j]? = some th → ∀ s k, region th.stack = some (s, k) →
    (getSub σ s).outOwner = some j ∧ Phase (getSub σ s) k
  free : ∀ s, (getSub σ s).outOwner = none → (getSub σ s).disconnected = (getSub σ s).outClosed
  owner : ∀ s j, (getSub σ s).outOwner = some j →
    ∃ th k, σ.threads[j]? = some th ∧ region th.stack = some (s, k)

theorem lt_of_owner {σ : Sys} {s j : Nat} (h : (getSub σ s).outOwner = some j) : s < σ.subs.length := by
  apply Nat.lt_of_not_le
  intro hle
  rw [getSub_of_ge hle] at h
  cases h

/-- The canonical effect keeps `Locks` if thread `i` changes the view of a subscriber only inside its critical
    section or when it takes the free lock, what its new stack claims holds, and where it leaves a critical
    section it releases the lock with flag and channel in agreement. -/
theorem locks_upd {σ : Sys} {i : Nat} {th : Thread} {sf g st l r} (hL : Locks σ) (hth : σ.threads[i]? = some th)
    (hsf : ∀ s f, sf = some (s, f) → vw (f (getSub σ s)) = vw (getSub σ s) ∨ (∃ k, region th.stack = some (s, k)) ∨
      ((getSub σ s).outOwner = none ∧ ∃ k, region st = some (s, k)))
    (hnew : ∀ s k, region st = some (s, k) →
      (getSub (updSub σ sf) s).outOwner = some i ∧ Phase (getSub (updSub σ sf) s) k)
    (hold : ∀ s k, region th.stack = some (s, k) → (∃ k', region st = some (s, k')) ∨
      ((getSub (updSub σ sf) s).outOwner = none ∧
        (getSub (updSub σ sf) s).disconnected = (getSub (updSub σ sf) s).outClosed)) :
    Locks (upd σ i sf g st l r) := by
  have key : ∀ s, vw (getSub (updSub σ sf) s) = vw (getSub σ s) ∨ (∃ k, region th.stack = some (s, k)) ∨
      ((getSub σ s).outOwner = none ∧ ∃ k, region st = some (s, k)) := by
    intro s
    rcases getSub_updSub_cases σ sf s with h | ⟨s', f, hsf', rfl, h⟩ <;> rw [h]
    · exact .inl rfl
    · exact hsf _ f hsf'
  have hi : (upd σ i sf g st l r).threads[i]? = some (retOf st th r l) := upd_threads_self hth
  refine ⟨by rw [upd_panic]; exact hL.panic, fun j tj hj s k hr => ?_, fun s ho => ?_, fun s j ho => ?_⟩
  · rw [getSub_upd]
    by_cases hji : j = i
    · subst hji; rw [hi] at hj; cases hj; exact hnew s k hr
    · rw [upd_threads_other hji] at hj
      obtain ⟨ho, hp⟩ := hL.frame j tj hj s k hr
      rcases key s with hv | ⟨k', hk'⟩ | ⟨hn, -⟩
      · exact ⟨(vw_eq hv).2.2.trans ho, hp.of_vw hv⟩
      · exact (hji (Option.some.inj (ho.symm.trans (hL.frame i th hth s k' hk').1))).elim
      · rw [hn] at ho; cases ho
  · rw [getSub_upd] at ho ⊢
    rcases key s with hv | ⟨k, hk⟩ | ⟨-, k, hk⟩
    · obtain ⟨h1, h2, h3⟩ := vw_eq hv
      rw [h1, h2]; exact hL.free s (h3.symm.trans ho)
    · rcases hold s k hk with ⟨k', hk'⟩ | h
      · rw [(hnew s k' hk').1] at ho; cases ho
      · exact h.2
    · rw [(hnew s k hk).1] at ho; cases ho
  · rw [getSub_upd] at ho
    have mine : ∀ k, region st = some (s, k) →
        ∃ th' k', (upd σ i sf g st l r).threads[j]? = some th' ∧ region th'.stack = some (s, k') := by
      intro k hk
      obtain rfl : i = j := Option.some.inj ((hnew s k hk).1.symm.trans ho)
      exact ⟨_, k, hi, hk⟩
    have kept : ∀ k, region th.stack = some (s, k) →
        ∃ th' k', (upd σ i sf g st l r).threads[j]? = some th' ∧ region th'.stack = some (s, k') := by
      intro k hk
      rcases hold s k hk with ⟨k', hk'⟩ | h
      · exact mine k' hk'
      · rw [h.1] at ho; cases ho
    rcases key s with hv | ⟨k, hk⟩ | ⟨-, k, hk⟩
    · obtain ⟨tj, k, hj, hk⟩ := hL.owner s j ((vw_eq hv).2.2.symm.trans ho)
      by_cases hji : j = i
      · subst hji; rw [hth] at hj; cases hj; exact kept k hk
      · exact ⟨tj, k, by rw [upd_threads_other hji]; exact hj, hk⟩
    · exact kept k hk
    · exact mine k hk

theorem locks_idle {σ : Sys} {i : Nat} {th : Thread} {sf g st l r} (hL : Locks σ) (hth : σ.threads[i]? = some th)
    (hv : ∀ s f, sf = some (s, f) → ∀ b, vw (f b) = vw b) (hr : region st = region th.stack) :
    Locks (upd σ i sf g st l r) := by
  refine locks_upd hL hth (fun s f h => .inl (hv s f h _)) (fun s k h => ?_) (fun s k h => .inl ⟨k, hr ▸ h⟩)
  have same : vw (getSub (updSub σ sf) s) = vw (getSub σ s) := by
    rcases getSub_updSub_cases σ sf s with h | ⟨_, f, hsf, rfl, h⟩ <;> rw [h]
    exact hv _ f hsf _
  obtain ⟨ho, hp⟩ := hL.frame i th hth s k (hr ▸ h)
  exact ⟨(vw_eq same).2.2.trans ho, hp.of_vw same⟩

/-- `outMutex.Lock` succeeds: flag and channel agree, since the lock was free. -/
theorem locks_acquire {σ : Sys} {i : Nat} {th : Thread} {s : Nat} {g st l r} (hL : Locks σ)
    (hth : σ.threads[i]? = some th) (hs : s < σ.subs.length) (hr : region th.stack = none)
    (hr' : region st = some (s, none)) (ho : (getSub σ s).outOwner = none) :
    Locks (upd σ i (some (s, fun b => { b with outOwner := some i })) g st l r) := by
  refine locks_upd hL hth ?_ ?_ (fun s' k h => nomatch hr.symm.trans h)
  · rintro _ _ ⟨⟩; exact .inr (.inr ⟨ho, _, hr'⟩)
  · intro s' k h
    obtain ⟨rfl, rfl⟩ : s = s' ∧ none = k := by simpa using hr'.symm.trans h
    rw [updSub_some, getSub_setSub_self _ _ _ hs]
    exact ⟨rfl, hL.free s ho⟩

/-- Thread `i` stays inside the critical section of `s`; `sf` is what it does to `s`, if anything. -/
theorem locks_inside {σ : Sys} {i : Nat} {th : Thread} {s : Nat} {k k' : Option Bool} {g st l r}
    (sf : Option (Sub → Sub)) (hL : Locks σ) (hth : σ.threads[i]? = some th)
    (hr : region th.stack = some (s, k)) (hr' : region st = some (s, k'))
    (ho : (sf.getD id (getSub σ s)).outOwner = (getSub σ s).outOwner)
    (hp : Phase (getSub σ s) k → Phase (sf.getD id (getSub σ s)) k') :
    Locks (upd σ i (sf.map (s, ·)) g st l r) := by
  obtain ⟨ho', hp'⟩ := hL.frame i th hth s k hr
  have hb : getSub (updSub σ (sf.map (s, ·))) s = sf.getD id (getSub σ s) := by
    cases sf with
    | none => rfl
    | some f => exact getSub_setSub_self σ s f (lt_of_owner ho')
  refine locks_upd hL hth ?_ ?_ (fun s' _ h => .inl ⟨k', ?_⟩)
  · intro s' f h
    cases sf <;> cases h
    exact .inr (.inl ⟨k, hr⟩)
  · intro s' k'' h
    obtain ⟨rfl, rfl⟩ : s = s' ∧ k' = k'' := by simpa using hr'.symm.trans h
    rw [hb]; exact ⟨ho.trans ho', hp hp'⟩
  · obtain ⟨rfl, -⟩ : s = s' ∧ k = _ := by simpa using hr.symm.trans h
    exact hr'

/-- Thread `i` leaves the critical section of `s` by `f`, which unlocks: flag and channel have to agree then. -/
theorem locks_release {σ : Sys} {i : Nat} {th : Thread} {s : Nat} {k : Option Bool} {f g st l r} (hL : Locks σ)
    (hth : σ.threads[i]? = some th) (hr : region th.stack = some (s, k)) (hr' : region st = none)
    (ho : (f (getSub σ s)).outOwner = none)
    (hdc : Phase (getSub σ s) k → (f (getSub σ s)).disconnected = (f (getSub σ s)).outClosed) :
    Locks (upd σ i (some (s, f)) g st l r) := by
  obtain ⟨ho', hp⟩ := hL.frame i th hth s k hr
  refine locks_upd hL hth ?_ (fun s' _ h => nomatch hr'.symm.trans h) (fun s' k' h => .inr ?_)
  · rintro _ _ ⟨⟩; exact .inr (.inl ⟨k, hr⟩)
  · obtain ⟨rfl, -⟩ : s = s' ∧ k = k' := by simpa using hr.symm.trans h
    rw [updSub_some, getSub_setSub_self _ _ _ (lt_of_owner ho')]
    exact ⟨ho, hdc hp⟩

theorem region_tail {n : Nat} {op : Op} {fr : Frame} {rest : List Frame} (h : VS n op (fr :: rest)) :
    region rest = none := by
  cases h <;> rfl

theorem region_flushStack (s : Nat) (q : List Upd) (rest : List Frame) :
    region (flushStack s q rest) = some (s, some false) := by
  cases q <;> rfl

theorem region_scanLoop (fl sb s ts fuel todo rp) (rest : List Frame) :
    region (scanLoop fl sb s ts fuel todo rp ++ rest) = region rest := by
  rcases Stream.scanLoop_shape fl sb s ts rp fuel todo with h | ⟨e, more, h⟩ <;> rw [h] <;> rfl

theorem locks_trans {σ σp : Sys} {i : Nat} {th : Thread} (hS : Stream.Shape σ) (hL : Locks σ)
    (hth : σ.threads[i]? = some th) (h : Trans σ i th.stack σp) : Locks σp := by
  have hvs := hS.vs i th hth
  obtain ⟨op, stk, ret, last⟩ := th
  replace h : Trans σ i stk σp := h
  replace hvs : VS σ.subs.length op stk := hvs
  cases h
  -- outMutex.Lock
  case sD3 ho | sR1 ho | sX1 ho =>
    exact locks_acquire hL hth (by cases hvs <;> assumption) (region_tail hvs :) rfl ho
  -- the flag, re-read under the lock: set, the operation unlocks and returns; clear, the channel is open as well
  case sD4a | sR2a | sX2a => exact locks_release hL hth rfl (region_tail hvs) rfl id
  case sD4b hd | sX2b hd => exact locks_inside none hL hth rfl rfl rfl fun h => ⟨hd, h.symm.trans hd⟩
  case sR2b hd => exact locks_inside none hL hth rfl (region_flushStack ..) rfl fun h => ⟨hd, h.symm.trans hd⟩
  -- the sends, and go-live at the end of `Ready`: flag and channel stay as they are
  case sD5a | sR6 => exact locks_release hL hth rfl (region_tail hvs) rfl fun h => h.1.trans h.2.symm
  case sD5b | sR3nil | sR3b => exact locks_inside none hL hth rfl rfl rfl id
  case sR3a => exact locks_inside (some _) hL hth rfl (region_flushStack ..) rfl id
  -- overflow, Disconnect: the flag is stored, then the channel (still open) is closed
  case sD6 | sR4 | sX3 => exact locks_inside (some _) hL hth rfl rfl rfl fun h => ⟨rfl, h.2⟩
  case sD7 | sR5 | sX4 => exact locks_release hL hth rfl (region_tail hvs) rfl fun h => h.1
  case tA3c => exact locks_idle hL hth (fun _ _ h => nomatch h) (region_scanLoop ..)
  all_goals exact locks_idle hL hth (by rintro _ _ ⟨⟩ _ <;> rfl) rfl

theorem locks_adm {σ σ' : Sys} {i : Nat} {th : Thread} (hL : Locks σ) (hth : σ.threads[i]? = some th)
    (h : Adm σ i th σ') : Locks σ' := by
  cases h
  case a8t hst _ => exact locks_idle hL hth (fun _ _ h => nomatch h) (hst ▸ region_scanLoop ..)
  all_goals exact locks_idle hL hth (fun _ _ h => nomatch h) (‹th.stack = _› ▸ rfl)

/-- A send on / close of a channel happens inside the critical section, the channel known to be open. -/
theorem region_chanSite {fr : Frame} {s : Nat} (rest : List Frame) (h : Stream.chanSite fr = some s) :
    ∃ v, region (fr :: rest) = some (s, some v) := by
  cases fr with
  | sDispatch s' u hh pc =>
    rcases pc with _|_|_|_|_|_|_|pc <;> simp [Stream.chanSite] at h <;> subst h <;> exact ⟨_, rfl⟩
  | sReady s' pc q =>
    rcases pc with _|_|_|_|_|_|pc <;> simp [Stream.chanSite] at h <;> subst h <;> exact ⟨_, rfl⟩
  | sDisconnect s' pc =>
    rcases pc with _|_|_|_|pc <;> simp [Stream.chanSite] at h <;> subst h <;> exact ⟨_, rfl⟩
  | _ => cases h

theorem Locks.flagged {σ : Sys} (hL : Locks σ) (s : Nat) (hc : (getSub σ s).outClosed = true) :
    (getSub σ s).disconnected = true := by
  cases ho : (getSub σ s).outOwner with
  | none => rw [hL.free s ho]; exact hc
  | some j =>
    obtain ⟨th, k, hth, hk⟩ := hL.owner s j ho
    obtain ⟨-, hp⟩ := hL.frame j th hth s k hk
    cases k with
    | none => exact hp.trans hc
    | some v => rw [hp.2] at hc; cases hc

theorem Locks.quiescent {σ : Sys} (hL : Locks σ) (hq : σ.allDone = true) (s : Nat) :
    (getSub σ s).disconnected = (getSub σ s).outClosed := by
  apply hL.free
  cases ho : (getSub σ s).outOwner with
  | none => rfl
  | some j =>
    obtain ⟨th, k, hth, hk⟩ := hL.owner s j ho
    have : th.stack = [] := by
      simpa [Thread.finished] using List.all_eq_true.1 hq th (List.mem_of_getElem? hth)
    rw [this] at hk; cases hk

/-! ### `closedOnce`: the walk of Close -/

/-- The part of the transport `Close` works on. -/
def tv (t : Tr) : Option Nat × Bool × List Nat := (t.onceRunning, t.onceDone, t.walked)

theorem tv_eq {t t' : Tr} (h : tv t' = tv t) :
    t'.onceRunning = t.onceRunning ∧ t'.onceDone = t.onceDone ∧ t'.walked = t.walked :=
  ⟨congrArg (·.1) h, congrArg (·.2.1) h, congrArg (·.2.2) h⟩

theorem tv_endViewTr (t : Tr) : tv (Stream.endViewTr t) = tv t := by
  unfold Stream.endViewTr; split <;> rfl

/-- Where a thread is inside `closedOnce.Do`: not inside (`none`), before the walk (`some none`), or in the walk
    with these subscribers still to disconnect: those left in the list and the one `Disconnect` is running for. -/
def closing : List Frame → Option (Option (List Nat))
  | [] => none
  | .tClose pc todo :: rest =>
    match pc with
    | 0 => closing rest
    | pc + 1 => some (match pc with | 0 | 1 | 2 => none | _ => some todo)
  | .sDisconnect s _ :: rest => (closing rest).map (·.map (s :: ·))
  | _ :: rest => closing rest

/-- The thread inside `closedOnce.Do` is the one recorded, the Once is not done, and every subscriber found by the
    walk is flagged or still to be disconnected; when the Once is done all of them are flagged. -/
structure Closing (σ : Sys) : Prop where
  once : ∀ (j : Nat) (th : Thread), σ.threads[j]? = some th → ∀ w, closing th.stack = some w →
    σ.tr.onceRunning = some j ∧ σ.tr.onceDone = false ∧
      ∀ l, w = some l → ∀ s ∈ σ.tr.walked, s ∈ l ∨ (getSub σ s).disconnected = true
  done : σ.tr.onceDone = true → ∀ s ∈ σ.tr.walked, (getSub σ s).disconnected = true

/-- The canonical effect keeps `Closing` if no flag is cleared, only the thread inside the Once (or the one that
    enters it) changes `tv`, and what the new stack says of the walk holds (of the flags before the step). -/
theorem closing_upd {σ : Sys} {i : Nat} {th : Thread} {sf g st l r} (hC : Closing σ) (hth : σ.threads[i]? = some th)
    (hd : ∀ s f, sf = some (s, f) → ∀ b : Sub, b.disconnected = true → (f b).disconnected = true)
    (hg : tv (g σ.tr) = tv σ.tr ∨ (closing th.stack).isSome ∨ σ.tr.onceRunning = none)
    (hnew : ∀ w, closing st = some w → (g σ.tr).onceRunning = some i ∧ (g σ.tr).onceDone = false ∧
      ∀ l, w = some l → ∀ s ∈ (g σ.tr).walked, s ∈ l ∨ (getSub σ s).disconnected = true)
    (hdone : (g σ.tr).onceDone = true → ∀ s ∈ (g σ.tr).walked, (getSub σ s).disconnected = true) :
    Closing (upd σ i sf g st l r) := by
  have mono : ∀ s, (getSub σ s).disconnected = true → (getSub (updSub σ sf) s).disconnected = true := by
    intro s
    rcases getSub_updSub_cases σ sf s with h | ⟨_, f, hsf, rfl, h⟩ <;> rw [h]
    · exact id
    · exact hd _ f hsf _
  refine ⟨fun j tj hj w hw => ?_, fun h s hs => ?_⟩
  · simp only [upd_tr, getSub_upd]
    by_cases hji : j = i
    · subst hji; rw [upd_threads_self hth] at hj; cases hj
      obtain ⟨h1, h2, h3⟩ := hnew w hw
      exact ⟨h1, h2, fun l hl s hs => (h3 l hl s hs).imp_right (mono s)⟩
    · rw [upd_threads_other hji] at hj
      obtain ⟨h1, h2, h3⟩ := hC.once j tj hj w hw
      rcases hg with hg | hg | hg
      · obtain ⟨e1, e2, e3⟩ := tv_eq hg
        rw [e1, e2, e3]; exact ⟨h1, h2, fun l hl s hs => (h3 l hl s hs).imp_right (mono s)⟩
      · obtain ⟨w', hw'⟩ := Option.isSome_iff_exists.1 hg
        exact (hji (Option.some.inj (h1.symm.trans (hC.once i th hth w' hw').1))).elim
      · rw [hg] at h1; cases h1
  · rw [upd_tr] at h hs; rw [getSub_upd]; exact mono s (hdone h s hs)

theorem closing_idle {σ : Sys} {i : Nat} {th : Thread} {sf g st l r} (hC : Closing σ) (hth : σ.threads[i]? = some th)
    (hd : ∀ s f, sf = some (s, f) → ∀ b : Sub, b.disconnected = true → (f b).disconnected = true)
    (htv : tv (g σ.tr) = tv σ.tr) (hc : closing st = closing th.stack) : Closing (upd σ i sf g st l r) := by
  obtain ⟨e1, e2, e3⟩ := tv_eq htv
  refine closing_upd hC hth hd (.inl htv) (fun w hw => ?_) (fun h => ?_)
  · rw [e1, e2, e3]; exact hC.once i th hth w (hc ▸ hw)
  · rw [e2] at h; rw [e3]; exact hC.done h

/-- `Disconnect` returns to the walk: its subscriber is flagged. -/
theorem closing_return {σ : Sys} {i : Nat} {th : Thread} {s pc : Nat} {rest : List Frame} {sf g l r}
    (hC : Closing σ) (hth : σ.threads[i]? = some th) (hst : th.stack = .sDisconnect s pc :: rest)
    (hd : ∀ s f, sf = some (s, f) → ∀ b : Sub, b.disconnected = true → (f b).disconnected = true)
    (htv : tv (g σ.tr) = tv σ.tr) (hs : (getSub σ s).disconnected = true) : Closing (upd σ i sf g rest l r) := by
  obtain ⟨e1, e2, e3⟩ := tv_eq htv
  refine closing_upd hC hth hd (.inl htv) (fun w hw => ?_) (fun h => ?_)
  · obtain ⟨h1, h2, h3⟩ := hC.once i th hth (w.map (s :: ·)) (by rw [hst]; show (closing rest).map _ = _; rw [hw]; rfl)
    rw [e1, e2, e3]
    refine ⟨h1, h2, ?_⟩
    rintro l rfl x hx
    rcases h3 _ rfl x hx with h | h
    · rcases List.mem_cons.1 h with rfl | h
      · exact .inr hs
      · exact .inl h
    · exact .inr h
  · rw [e2] at h; rw [e3]; exact hC.done h

theorem closing_flushStack (s : Nat) (q : List Upd) (rest : List Frame) :
    closing (flushStack s q rest) = closing rest := by
  cases q <;> rfl

theorem closing_scanLoop (fl sb s ts fuel todo rp) (rest : List Frame) :
    closing (scanLoop fl sb s ts fuel todo rp ++ rest) = closing rest := by
  rcases Stream.scanLoop_shape fl sb s ts rp fuel todo with h | ⟨e, more, h⟩ <;> rw [h] <;> rfl

theorem closing_trans {σ σp : Sys} {i : Nat} {th : Thread} (hW : WF σ) (hL : Locks σ) (hC : Closing σ)
    (hth : σ.threads[i]? = some th) (h : Trans σ i th.stack σp) : Closing σp := by
  have hvs := hW.shape.vs i th hth
  have hpk := hW.parked i th hth
  obtain ⟨op, stk, ret, last⟩ := th
  replace h : Trans σ i stk σp := h
  replace hvs : VS σ.subs.length op stk := hvs
  replace hpk : topParked stk = true := hpk
  cases h
  -- once.Do: the Once is free
  case tC0b hnd hno =>
    exact closing_upd hC hth (fun _ _ h => nomatch h) (.inr (.inr hno))
      (by rintro _ ⟨⟩; exact ⟨rfl, hnd, by rintro _ ⟨⟩⟩) (fun h => nomatch hnd.symm.trans h)
  -- sl.Walk: every subscriber found is still to be disconnected
  case tC3b | tC3l =>
    obtain ⟨h1, h2, -⟩ := hC.once i _ hth _ rfl
    exact closing_upd hC hth (fun _ _ h => nomatch h) (.inr (.inl rfl))
      (by rintro _ ⟨⟩; exact ⟨h1, h2, by rintro _ ⟨⟩ s hs; exact .inl hs⟩) (fun h => nomatch h2.symm.trans h)
  -- the Once is done (Bolt): a parked thread is not at pc 9, so nothing is left of the walk
  case tC4b =>
    obtain ⟨-, -, h3⟩ := hC.once i _ hth _ rfl
    cases hvs with
    | tC9 => cases hpk
    | tC =>
      exact closing_upd hC hth (fun _ _ h => nomatch h) (.inr (.inl rfl)) (by rintro _ ⟨⟩)
        (fun _ s hs => (h3 _ rfl s hs).resolve_left List.not_mem_nil)
  -- Disconnect returns to the walk, having found the flag set or (sX4) stored it under the lock
  case sX0a hd => exact closing_return hC hth rfl (fun _ _ h => nomatch h) rfl hd
  case sX2a hd => exact closing_return hC hth rfl (by rintro _ _ ⟨⟩ _; exact id) rfl hd
  case sX4 => exact closing_return hC hth rfl (by rintro _ _ ⟨⟩ _; exact id) rfl (hL.frame i _ hth _ _ rfl).2.1
  case sD6 | sR4 | sX3 => exact closing_idle hC hth (by rintro _ _ ⟨⟩ _ _; rfl) rfl rfl
  case sR2b | sR3a => exact closing_idle hC hth (by rintro _ _ ⟨⟩ _ <;> exact id) rfl (closing_flushStack ..)
  case tA3c => exact closing_idle hC hth (fun _ _ h => nomatch h) rfl (closing_scanLoop ..)
  case tA4 => exact closing_idle hC hth (by rintro _ _ ⟨⟩ _; exact id) (tv_endViewTr _) rfl
  all_goals exact closing_idle hC hth (by rintro _ _ ⟨⟩ _ <;> exact id) rfl rfl

theorem closing_adm {σ σ' : Sys} {i : Nat} {th : Thread} (hS : Stream.Shape σ) (hC : Closing σ)
    (hth : σ.threads[i]? = some th) (h : Adm σ i th σ') : Closing σ' := by
  have hvs := hS.vs i th hth
  cases h
  -- the Once is done (local): nothing is left of the walk
  case c9nL _ hst =>
    obtain ⟨-, -, h3⟩ := hC.once i th hth _ (by rw [hst]; rfl)
    obtain ⟨rfl, -⟩ := (hst ▸ hvs : VS _ _ (_ :: _)).bottom
    exact closing_upd hC hth (fun _ _ h => nomatch h) (.inr (.inl (by rw [hst]; rfl))) (by rintro _ ⟨⟩)
      (fun _ s hs => (h3 _ rfl s hs).resolve_left List.not_mem_nil)
  case a8t hst _ => exact closing_idle hC hth (fun _ _ h => nomatch h) rfl (hst ▸ closing_scanLoop ..)
  all_goals exact closing_idle hC hth (fun _ _ h => nomatch h) rfl (‹th.stack = _› ▸ rfl)

/-! ### every reachable state -/

def Inv (σ : Sys) : Prop := Locks σ ∧ Closing σ

theorem inv_init {kind : Kind} {size : Nat} {subs : List Sub} {ops : List Op} (wf : WellFormed subs ops) :
    Inv (Sys.init Flags.repaired kind size subs ops) := by
  refine ⟨⟨rfl, fun j th hj s k hk => ?_, fun s _ => ?_, fun s j ho => ?_⟩, fun j th hj w hw => ?_, fun h => nomatch h⟩
  · obtain ⟨o, -, rfl⟩ := Stream.init_threads _ _ _ _ _ j th hj
    cases o <;> cases hk
  · obtain ⟨t, r, c, h⟩ := Stream.init_getSub Flags.repaired kind size wf s
    rw [h]; rfl
  · obtain ⟨t, r, c, h⟩ := Stream.init_getSub Flags.repaired kind size wf s
    rw [h] at ho; cases ho
  · obtain ⟨o, -, rfl⟩ := Stream.init_threads _ _ _ _ _ j th hj
    cases o <;> cases hw

/-- A panic would happen at a send / close site with the channel closed; `Locks.frame` says it is open there. So
    reachable states do not panic, and an invariant `J` need only be kept by the transitions (`Stream.reach_inv` without
    its third premise). -/
theorem reach_inv {J : Sys → Prop}
    (htrans : ∀ σ i th σp, WF σ → J σ → σ.threads[i]? = some th → Trans σ i th.stack σp → J σp)
    (hadm : ∀ σ i th σ', σ.flags = Flags.repaired → Stream.Shape σ → J σ → σ.threads[i]? = some th → Adm σ i th σ' → J σ')
    {kind : Kind} {size : Nat} {subs : List Sub} {ops : List Op} (wf : WellFormed subs ops)
    (hinit : J (Sys.init Flags.repaired kind size subs ops)) (sched : List Nat) :
    WF (reach Flags.repaired kind size subs ops sched) ∧ Inv (reach Flags.repaired kind size subs ops sched) ∧
      J (reach Flags.repaired kind size subs ops sched) := by
  refine Stream.reach_inv (J := fun σ => Inv σ ∧ J σ)
    (fun σ i th σp hW hJ hth h =>
      ⟨⟨locks_trans hW.shape hJ.1.1 hth h, closing_trans hW hJ.1.1 hJ.1.2 hth h⟩, htrans σ i th σp hW hJ.2 hth h⟩)
    (fun σ i th σ' hfl hS hJ hth h =>
      ⟨⟨locks_adm hJ.1.1 hth h, closing_adm hS hJ.1.2 hth h⟩, hadm σ i th σ' hfl hS hJ.2 hth h⟩)
    (fun σ i th fr rest s msg hJ hth hst hs hc => ?_) wf ⟨inv_init wf, hinit⟩ sched
  obtain ⟨v, hv⟩ := region_chanSite rest hs
  have := (hJ.1.1.frame i th hth s (some v) (hst ▸ hv)).2.2
  rw [hc] at this; cases this

variable (kind : Kind) (size : Nat) (subs : List Sub) (ops : List Op)

theorem inv_reach (wf : WellFormed subs ops) (sched : List Nat) :
    WF (reach Flags.repaired kind size subs ops sched) ∧ Inv (reach Flags.repaired kind size subs ops sched) :=
  have h := reach_inv (J := fun _ => True) (fun _ _ _ _ _ _ _ _ => trivial) (fun _ _ _ _ _ _ _ _ _ => trivial) wf trivial sched
  ⟨h.1, h.2.1⟩

/-! ### the theorems -/

/-- No schedule reaches a send on / close of a closed channel. -/
theorem no_panic (wf : WellFormed subs ops) (sched : List Nat) :
    (reach Flags.repaired kind size subs ops sched).panic = none :=
  (inv_reach kind size subs ops wf sched).2.1.panic

/-- A closed channel is always flagged. -/
theorem closed_implies_flag (wf : WellFormed subs ops) (sched : List Nat) :
    ∀ b ∈ (reach Flags.repaired kind size subs ops sched).subs, b.outClosed = true → b.disconnected = true := by
  intro b hb
  obtain ⟨s, -, rfl⟩ := Stream.mem_subs_iff_getSub.1 hb
  exact (inv_reach kind size subs ops wf sched).2.1.flagged s

/-- At quiescence a subscriber is flagged disconnected exactly when its stream has been ended
    (overflow, client or hub): never "cut off but left waiting". -/
theorem flag_iff_closed_at_quiescence (wf : WellFormed subs ops) (sched : List Nat)
    (hq : (reach Flags.repaired kind size subs ops sched).allDone = true) :
    ∀ b ∈ (reach Flags.repaired kind size subs ops sched).subs, b.disconnected = b.outClosed := by
  intro b hb
  obtain ⟨s, -, rfl⟩ := Stream.mem_subs_iff_getSub.1 hb
  exact (inv_reach kind size subs ops wf sched).2.1.quiescent hq s

/-- The send of a publisher never waits for a consumer: parked before a channel send, a thread always moves. -/
theorem send_never_waits (σ : Sys) (i : Nat) (th : Thread) (hth : σ.threads[i]? = some th) (hp : σ.panic = none)
    (h : (∃ s u hist rest, th.stack = .sDispatch s u hist 5 :: rest) ∨ (∃ s q rest, th.stack = .sReady s 3 q :: rest)) :
    (step σ i).moved = true := by
  cases hm : (step σ i).moved with
  | true => rfl
  | false =>
    obtain ⟨s, u, hist, rest, hst⟩ | ⟨s, q, rest, hst⟩ := h <;>
      exact False.elim (Stream.waitsFor_of_not_moved hp hth hst hm)

theorem owner_mem {σ : Sys} {s : Nat} (h : (getSub σ s).liveOwner.isSome ∨ (getSub σ s).outOwner.isSome) :
    ∃ b ∈ σ.subs, b.liveOwner.isSome ∨ b.outOwner.isSome := by
  by_cases hs : s < σ.subs.length
  · exact ⟨_, Stream.getSub_mem hs, h⟩
  · rw [getSub_of_ge (Nat.le_of_not_lt hs)] at h
    rcases h with h | h <;> cases h

/-- A thread only ever waits for a lock that is held, for the read transactions to end
    (db.Close) or for a running Once — never for the state of a subscriber's buffer. -/
theorem waits_only_for_locks (σ : Sys) (i : Nat) (th : Thread) (hth : σ.threads[i]? = some th) (hp : σ.panic = none)
    (hne : th.stack ≠ []) (hw : (step σ i).moved = false) :
    σ.tr.writer.isSome ∨ σ.tr.onceRunning.isSome ∨ σ.tr.readers > 0 ∨
    (∃ b ∈ σ.subs, b.liveOwner.isSome ∨ b.outOwner.isSome) := by
  obtain ⟨fr, rest, hst⟩ := List.exists_cons_of_ne_nil hne
  rcases Stream.waitsFor_busy (Stream.waitsFor_of_not_moved hp hth hst hw) with ⟨s, h⟩ | ⟨s, h⟩ | h | h | h
  · exact .inr (.inr (.inr (owner_mem (.inr h))))
  · exact .inr (.inr (.inr (owner_mem (.inl h))))
  · exact .inl h
  · exact .inr (.inl h)
  · exact .inr (.inr (.inl h.2))

/-- When Close has returned every subscriber it found registered is flagged (its stream is ended
    or is being ended by the thread that overflowed it)… -/
theorem close_flags_registered (wf : WellFormed subs ops) (sched : List Nat)
    (hd : (reach Flags.repaired kind size subs ops sched).tr.onceDone = true) :
    ∀ s ∈ (reach Flags.repaired kind size subs ops sched).tr.walked,
      (getSub (reach Flags.repaired kind size subs ops sched) s).disconnected = true :=
  (inv_reach kind size subs ops wf sched).2.2.done hd

/-- …and at quiescence its stream is ended. -/
theorem close_ends_registered (wf : WellFormed subs ops) (sched : List Nat)
    (hq : (reach Flags.repaired kind size subs ops sched).allDone = true)
    (hd : (reach Flags.repaired kind size subs ops sched).tr.onceDone = true) :
    ∀ s ∈ (reach Flags.repaired kind size subs ops sched).tr.walked,
      (getSub (reach Flags.repaired kind size subs ops sched) s).outClosed = true := by
  intro s hs
  have hI := (inv_reach kind size subs ops wf sched).2
  exact (hI.1.quiescent hq s).symm.trans (hI.2.done hd s hs)

/-- Once closed, always closed… -/
theorem closed_is_stable (σ : Sys) (i : Nat) (h : σ.tr.closedCh = true) : (step σ i).σ.tr.closedCh = true :=
  Stream.step_dss σ i (P := fun d => d.2.2.2 = true) h (fun _ => h) rfl

/-- …and an operation that starts afterwards is rejected and changes nothing. -/
theorem after_close_rejected (σ : Sys) (i : Nat) (th : Thread) (hth : σ.threads[i]? = some th) (hp : σ.panic = none)
    (hc : σ.tr.closedCh = true)
    (h : (∃ u, th.stack = [.tDispatch u 0 []]) ∨ (∃ s, th.stack = [.tAdd s 0 0 [] .earliest]) ∨ (∃ s, th.stack = [.tRemove s 0])) :
    (step σ i).σ.tr = σ.tr ∧ (step σ i).σ.subs = σ.subs ∧
    ((step σ i).σ.threads[i]?.bind (·.ret)) = some .errClosed := by
  have hi : (setThread σ i (fun t => retOf [] t (some .errClosed) none)).threads[i]? =
      some (retOf [] th (some .errClosed) none) := by
    rw [Stream.setThread_getElem?, hth]; simp
  have key : (step σ i).σ = setThread σ i (fun t => retOf [] t (some .errClosed) none) := by
    have hn := Stream.normalize_of_parked hi rfl
    obtain ⟨u, hst⟩ | ⟨s, hst⟩ | ⟨s, hst⟩ := h
    all_goals
      unfold step
      simp only [hp, hth, hst, hc, Option.isSome_none, Bool.false_eq_true, if_false, if_true, hn]
  rw [key, hi]
  exact ⟨rfl, rfl, rfl⟩

end Mercure.Sys.Safety

#print axioms Mercure.Sys.Safety.no_panic
#print axioms Mercure.Sys.Safety.closed_implies_flag
#print axioms Mercure.Sys.Safety.flag_iff_closed_at_quiescence
#print axioms Mercure.Sys.Safety.send_never_waits
#print axioms Mercure.Sys.Safety.waits_only_for_locks
#print axioms Mercure.Sys.Safety.close_flags_registered
#print axioms Mercure.Sys.Safety.close_ends_registered
#print axioms Mercure.Sys.Safety.closed_is_stable
#print axioms Mercure.Sys.Safety.after_close_rejected

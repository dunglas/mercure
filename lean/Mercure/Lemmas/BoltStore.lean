import Mercure.Model.BoltStore
import Mercure.Lemmas.Json
import Mercure.Lemmas.Form
/-
  Lemmas about Mercure.Model.BoltStore — the byte-level bucket refines the abstract history.
  The JSON round trip `RT` is `Lemmas/Json.parseUpdate_update`.
-/
namespace Mercure.BoltStore
open Mercure

def RT : Prop := ∀ (d : Bool) (u : Update), u.retry < 2 ^ 64 → Json.parseUpdate (Json.update d u) = some (d, u)

theorem be64_length (n : Nat) : (be64 n).length = 8 := rfl

theorem keyIdBytes_mkKey (seq : Nat) (id : Str) : keyIdBytes (mkKey seq id) = utf8Bytes id := by
  simp [keyIdBytes, mkKey, be64]

/-- big-endian value of a byte list -/
def valr : Bytes → Nat
  | [] => 0
  | a :: as => a.toNat * 256 ^ as.length + valr as

theorem valr_lt : ∀ l : Bytes, valr l < 256 ^ l.length
  | [] => by simp [valr]
  | a :: as => by
    have ih := valr_lt as
    have ha : a.toNat < 256 := a.toNat_lt
    simp only [valr, List.length_cons, Nat.pow_succ]
    have : (a.toNat + 1) * 256 ^ as.length ≤ 256 * 256 ^ as.length :=
      Nat.mul_le_mul_right _ ha
    rw [Nat.add_mul] at this
    omega

/-- bbolt's byte order on keys is the numeric order of their 8-byte prefixes, whatever follows: on prefixes of equal length
    with different values the first differing byte decides, since what comes after it is worth less than one unit of it
    (`valr_lt`). -/
theorem bytesLt_valr : ∀ (l1 l2 : Bytes) (x y : Bytes), l1.length = l2.length → valr l1 ≠ valr l2 →
    bytesLt (l1 ++ x) (l2 ++ y) = decide (valr l1 < valr l2)
  | [], [], _, _, _, h => absurd rfl h
  | [], _ :: _, _, _, hl, _ => by simp at hl
  | _ :: _, [], _, _, hl, _ => by simp at hl
  | a :: as, b :: bs, x, y, hl, h => by
    have hl' : as.length = bs.length := by simpa using hl
    have h1 := valr_lt as
    rw [hl'] at h1
    have h2 := valr_lt bs
    simp only [valr, hl'] at h
    simp only [List.cons_append, bytesLt, valr, hl']
    by_cases hab : a < b
    · simp only [hab, if_true]
      have : (a.toNat + 1) * 256 ^ bs.length ≤ b.toNat * 256 ^ bs.length :=
        Nat.mul_le_mul_right _ (UInt8.lt_iff_toNat_lt.mp hab)
      rw [Nat.add_mul] at this
      symm; apply decide_eq_true; omega
    · by_cases hba : b < a
      · simp only [hab, hba, if_true, if_false]
        have : (b.toNat + 1) * 256 ^ bs.length ≤ a.toNat * 256 ^ bs.length :=
          Nat.mul_le_mul_right _ (UInt8.lt_iff_toNat_lt.mp hba)
        rw [Nat.add_mul] at this
        symm; apply decide_eq_false; omega
      · simp only [hab, hba, if_false]
        have e : a.toNat = b.toNat := by
          have h3 : ¬ a.toNat < b.toNat := fun h => hab (UInt8.lt_iff_toNat_lt.mpr h)
          have h4 : ¬ b.toNat < a.toNat := fun h => hba (UInt8.lt_iff_toNat_lt.mpr h)
          omega
        rw [bytesLt_valr as bs x y hl' (by intro h'; apply h; rw [e, h'])]
        rw [e]
        simp

/-- the `k` low-order base-256 digits of `n`, most significant first -/
def beBytes : Nat → Nat → Bytes
  | 0, _ => []
  | k + 1, n => UInt8.ofNat (n / 256 ^ k % 256) :: beBytes k n

theorem length_beBytes (k n : Nat) : (beBytes k n).length = k := by
  induction k with
  | zero => rfl
  | succ k ih => simp [beBytes, ih]

theorem valr_beBytes (k n : Nat) : valr (beBytes k n) = n % 256 ^ k := by
  induction k with
  | zero => simp [beBytes, valr, Nat.mod_one]
  | succ k ih =>
    -- `Nat.mod_mul`: n % (256 ^ k * 256) = n % 256 ^ k + 256 ^ k * (n / 256 ^ k % 256)
    rw [beBytes, valr, length_beBytes, ih, Nat.pow_succ, Nat.mod_mul, UInt8.toNat_ofNat',
      Nat.mod_mod_of_dvd _ (by decide : 256 ∣ 2 ^ 8), Nat.mul_comm, Nat.add_comm]

theorem be64_eq (n : Nat) : be64 n = beBytes 8 n := by
  simp [be64, beBytes]

theorem valr_be64 (n : Nat) (h : n < 2 ^ 64) : valr (be64 n) = n := by
  rw [be64_eq, valr_beBytes]
  exact Nat.mod_eq_of_lt h

/-- Go's loop (`acc * 256 + b`, first byte first) computes `valr` -/
theorem foldl_eq_valr (l : Bytes) : ∀ acc : Nat,
    l.foldl (fun acc b => acc * 256 + b.toNat) acc = acc * 256 ^ l.length + valr l := by
  induction l with
  | nil => intro acc; simp [valr]
  | cons a as ih =>
    intro acc
    rw [List.foldl_cons, ih, valr, List.length_cons, Nat.pow_succ, Nat.add_mul, Nat.add_assoc,
      Nat.mul_assoc, Nat.mul_comm 256]

theorem be64Val_be64 (n : Nat) (h : n < 2 ^ 64) (rest : Bytes) : be64Val (be64 n ++ rest) = n := by
  rw [be64Val, List.take_left' (i := 8) (l₁ := be64 n) rfl, foldl_eq_valr, Nat.zero_mul, Nat.zero_add,
    valr_be64 n h]

theorem bytesLt_key (a b : Nat) (ha : a < 2 ^ 64) (hb : b < 2 ^ 64) (x y : Bytes) (hab : a ≠ b) :
    bytesLt (be64 a ++ x) (be64 b ++ y) = decide (a < b) := by
  have := bytesLt_valr (be64 a) (be64 b) x y rfl (by rw [valr_be64 a ha, valr_be64 b hb]; exact hab)
  rw [valr_be64 a ha, valr_be64 b hb] at this
  exact this

theorem utf8Bytes_injective : Function.Injective utf8Bytes := fun _ _ => Form.utf8Bytes_inj.1

/-! ### the bucket as the image of the abstract history -/

/-- the entry the hub writes for `(seq, u)` -/
def enc (d : Bool) (e : Nat × Update) : Bytes × Str := (mkKey e.1 e.2.id, Json.update d e.2)

theorem wf_iff (d : Bool) (b : Bucket) (db : List (Nat × Update)) :
    WellFormed d b db ↔ (b = db.map (enc d) ∧ db.Pairwise (fun x y => x.1 < y.1) ∧ ∀ e ∈ db, e.1 < 2 ^ 64) :=
  Iff.rfl

theorem put_append (k : Bytes) (v : Str) : ∀ b : Bucket,
    (∀ e ∈ b, bytesLt k e.1 = false ∧ bytesLt e.1 k = true) → put k v b = b ++ [(k, v)]
  | [], _ => rfl
  | e :: es, h => by
    have he := h e (List.mem_cons_self ..)
    have ih := put_append k v es (fun x hx => h x (List.mem_cons_of_mem _ hx))
    simp [put, he.1, he.2, ih]

/-- a publication appends: the new key sorts after every stored key -/
theorem put_wellFormed (d : Bool) (b : Bucket) (db : List (Nat × Update)) (seq : Nat) (u : Update)
    (wf : WellFormed d b db) (hnew : ∀ e ∈ db, e.1 < seq) (hseq : seq < 2 ^ 64) :
    WellFormed d (put (mkKey seq u.id) (Json.update d u) b) (db ++ [(seq, u)]) := by
  obtain ⟨hb, hp, hlt⟩ := (wf_iff d b db).mp wf
  rw [wf_iff]
  refine ⟨?_, ?_, ?_⟩
  · rw [put_append]
    · simp [hb, enc]
    · intro e he
      rw [hb] at he
      obtain ⟨x, hx, rfl⟩ := List.mem_map.mp he
      have h1 := hnew x hx
      have h2 := hlt x hx
      simp only [enc, mkKey]
      rw [bytesLt_key seq x.1 hseq h2 _ _ (by omega), bytesLt_key x.1 seq h2 hseq _ _ (by omega)]
      simp only [decide_eq_false_iff_not, decide_eq_true_eq]
      omega
  · exact List.pairwise_append.2 ⟨hp, List.pairwise_singleton _ _, fun a ha c hc => List.mem_singleton.1 hc ▸ hnew a ha⟩
  · exact List.forall_mem_append.2 ⟨hlt, List.forall_mem_singleton.2 hseq⟩

theorem be64Val_enc (d : Bool) (e : Nat × Update) (h : e.1 < 2 ^ 64) : be64Val (enc d e).1 = e.1 :=
  be64Val_be64 e.1 h _

theorem absEntry_enc (rt : RT) (d : Bool) (e : Nat × Update) (h1 : e.1 < 2 ^ 64) (h2 : e.2.retry < 2 ^ 64) :
    absEntry (enc d e) = some e := by
  simp only [absEntry, enc, rt d e.2 h2, mkKey, be64Val_be64 e.1 h1, Option.map_some]

/-- reading the bucket the way the code does yields the abstract history -/
theorem abs_wellFormed (rt : RT) (d : Bool) (b : Bucket) (db : List (Nat × Update))
    (wf : WellFormed d b db) (hr : ∀ e ∈ db, e.2.retry < 2 ^ 64) : abs b = some db := by
  obtain ⟨hb, -, hlt⟩ := (wf_iff d b db).mp wf
  subst hb
  clear wf
  induction db with
  | nil => rfl
  | cons e es ih =>
    have ih' := ih (fun x hx => hr x (List.mem_cons_of_mem _ hx))
      (fun x hx => hlt x (List.mem_cons_of_mem _ hx))
    simp only [List.map_cons, abs, ih',
      absEntry_enc rt d e (hlt e (List.mem_cons_self ..)) (hr e (List.mem_cons_self ..))]

theorem deleteWhileLe_enc (d : Bool) (r : Nat) : ∀ db : List (Nat × Update),
    db.Pairwise (fun x y => x.1 < y.1) → (∀ e ∈ db, e.1 < 2 ^ 64) →
    deleteWhileLe r (db.map (enc d)) = (db.filter (fun e => e.1 > r)).map (enc d)
  | [], _, _ => rfl
  | e :: es, hp, hlt => by
    have hp' := List.pairwise_cons.mp hp
    simp only [List.map_cons, deleteWhileLe, be64Val_enc d e (hlt e (List.mem_cons_self ..))]
    by_cases h : e.1 ≤ r
    · have hn : ¬ (e.1 > r) := by omega
      simp only [h, if_true, List.filter_cons, hn, decide_false]
      exact deleteWhileLe_enc d r es hp'.2 (fun x hx => hlt x (List.mem_cons_of_mem _ hx))
    · have hn : e.1 > r := by omega
      have hall : es.filter (fun e => decide (e.1 > r)) = es := by
        rw [List.filter_eq_self]
        intro a ha
        have := hp'.1 a ha
        simp only [decide_eq_true_eq]; omega
      simp [h, hn, hall]

/-- `cleanup` on bytes is `retain` on the abstract history -/
theorem cleanup_wellFormed (d : Bool) (b : Bucket) (db : List (Nat × Update)) (size last : Nat) (coin : Bool)
    (wf : WellFormed d b db) :
    WellFormed d (cleanup size coin last b) (if coin then retain size last db else db) := by
  obtain ⟨hb, hp, hlt⟩ := (wf_iff d b db).mp wf
  cases coin with
  | false => simpa [cleanup] using wf
  | true =>
    simp only [cleanup, retain, Bool.not_true, Bool.or_false, if_true]
    by_cases hc : (size == 0 || decide (size ≥ last)) = true
    · simp only [hc, if_true]; exact wf
    · simp only [hc]
      rw [wf_iff]
      refine ⟨?_, hp.filter _, ?_⟩
      · rw [hb]; exact deleteWhileLe_enc d _ db hp hlt
      · intro e he
        exact hlt e (List.mem_filter.mp he).1

theorem mem_retain {size last : Nat} {db : List (Nat × Update)} {e : Nat × Update}
    (h : e ∈ retain size last db) : e ∈ db := by
  unfold retain at h
  split at h
  · exact h
  · exact (List.mem_filter.mp h).1

/-- one publication at byte level is one `rPublish` -/
theorem persist_refines (d : Bool) (size : Nat) (st : St) (r : RSt) (cu : Bool × Update)
    (wf : WellFormed d st.bucket r.db) (hs : st.seq = r.seq) (hb : ∀ e ∈ r.db, e.1 ≤ r.seq)
    (hseq : r.seq + 1 < 2 ^ 64) :
    WellFormed d (persist size d st cu).bucket (rPublish size r cu).db ∧
    (persist size d st cu).seq = (rPublish size r cu).seq ∧
    (∀ e ∈ (rPublish size r cu).db, e.1 ≤ (rPublish size r cu).seq) := by
  have hput := put_wellFormed d st.bucket r.db (r.seq + 1) cu.2 wf
    (fun e he => Nat.lt_succ_of_le (hb e he)) hseq
  have hcl := cleanup_wellFormed d _ _ size (r.seq + 1) cu.1 hput
  refine ⟨?_, ?_, ?_⟩
  · simpa only [persist, rPublish, hs] using hcl
  · simp only [persist, rPublish, hs]
  · have hall : ∀ e ∈ r.db ++ [(r.seq + 1, cu.2)], e.1 ≤ r.seq + 1 :=
      List.forall_mem_append.2 ⟨fun e h => Nat.le_succ_of_le (hb e h), List.forall_mem_singleton.2 (Nat.le_refl _)⟩
    simp only [rPublish]
    intro e he
    split at he
    · exact hall e (mem_retain he)
    · exact hall e he

theorem foldl_refines (d : Bool) (size : Nat) : ∀ (ps : List (Bool × Update)) (st : St) (r : RSt),
    WellFormed d st.bucket r.db → st.seq = r.seq → (∀ e ∈ r.db, e.1 ≤ r.seq) →
    r.seq + ps.length < 2 ^ 64 →
    WellFormed d (ps.foldl (persist size d) st).bucket (ps.foldl (rPublish size) r).db ∧
    (ps.foldl (persist size d) st).seq = (ps.foldl (rPublish size) r).seq
  | [], _, _, wf, hs, _, _ => ⟨wf, hs⟩
  | cu :: ps, st, r, wf, hs, hb, hlen => by
    simp only [List.length_cons] at hlen
    obtain ⟨h1, h2, h3⟩ := persist_refines d size st r cu wf hs hb (by omega)
    simp only [List.foldl_cons]
    apply foldl_refines d size ps _ _ h1 h2 h3
    have : (rPublish size r cu).seq = r.seq + 1 := rfl
    omega

/-- any publication history (fewer than 2^64 publications): the bytes in the bucket are those of the
    abstract retained history -/
theorem run_refines (d : Bool) (size : Nat) (ps : List (Bool × Update)) (hlen : ps.length < 2 ^ 64) :
    WellFormed d (ps.foldl (persist size d) {}).bucket (rRun size ps).db ∧
    (ps.foldl (persist size d) {}).seq = (rRun size ps).seq := by
  apply foldl_refines d size ps {} {}
  · exact ⟨rfl, List.Pairwise.nil, by intro e he; cases he⟩
  · rfl
  · intro e he; cases he
  · show 0 + ps.length < 2 ^ 64
    omega

/-! ### the history scan -/

/-- The id the scan announces (bytes; `none` for "earliest") is the one `negotiate` returns. -/
def respMatches (r : Option Bytes) (rid : Str) : Prop :=
  match r with
  | none => rid = earliest
  | some bs => bs = utf8Bytes rid

def reqBytes (req : Str) : Option Bytes := if req == earliest then none else some (utf8Bytes req)

theorem decodeAll_enc (rt : RT) (d : Bool) : ∀ db : List (Nat × Update), (∀ e ∈ db, e.2.retry < 2 ^ 64) →
    decodeAll ((db.map (enc d)).map (·.2)) = some (db.map (·.2))
  | [], _ => rfl
  | e :: es, hr => by
    have ih := decodeAll_enc rt d es (fun x hx => hr x (List.mem_cons_of_mem _ hx))
    simp only [List.map_cons, decodeAll, enc, rt d e.2 (hr e (List.mem_cons_self ..))]
    rw [ih]

/-- the skipping phase: same response id, and the entries left are the image of a suffix of `db`
    whose updates are what `negotiate` replays -/
theorem skip_go (d : Bool) (req : Str) : ∀ (db : List (Nat × Update)) (last : Option Bytes) (last' : Str),
    respMatches last last' →
    ∃ rest, rest <:+ db ∧
      (scan.skip (some (utf8Bytes req)) (db.map (enc d)) last).2 = rest.map (enc d) ∧
      (negotiate.go req db last').2 = rest.map (·.2) ∧
      respMatches (scan.skip (some (utf8Bytes req)) (db.map (enc d)) last).1 (negotiate.go req db last').1
  | [], last, last', h => ⟨[], List.suffix_refl _, rfl, rfl, h⟩
  | e :: es, last, last', _ => by
    simp only [List.map_cons, scan.skip, negotiate.go]
    rw [show keyIdBytes (enc d e).1 = utf8Bytes e.2.id from keyIdBytes_mkKey _ _,
      show (some (utf8Bytes e.2.id) == some (utf8Bytes req)) = (e.2.id == req) from Form.utf8Bytes_beq _ _]
    by_cases h : e.2.id = req
    · simp only [beq_iff_eq.mpr h, if_true]
      exact ⟨es, List.suffix_cons _ _, rfl, rfl, by simp [respMatches, h]⟩
    · simp only [beq_eq_false_iff_ne.mpr h, if_false, Bool.false_eq_true]
      obtain ⟨rest, hs, hh⟩ := skip_go d req es (some (utf8Bytes e.2.id)) e.2.id rfl
      exact ⟨rest, List.IsSuffix.trans hs (List.suffix_cons _ _), hh⟩

/-- The scan before the cut is applied: skipping up to the requested id (`skip_go`; nothing is skipped for "earliest")
    leaves the entries `negotiate` replays, still encoded. -/
theorem scan_todo (d : Bool) (b : Bucket) (db : List (Nat × Update)) (req : Str) (toSeq : Nat)
    (hb : b = db.map (enc d)) :
    ∃ rest, rest <:+ db ∧
      (scan (reqBytes req) toSeq b).2 =
        ((rest.map (enc d)).takeWhile (fun e => be64Val e.1 ≤ toSeq)).map (·.2) ∧
      (negotiate db req).2 = rest.map (·.2) ∧
      respMatches (scan (reqBytes req) toSeq b).1 (negotiate db req).1 := by
  subst hb
  by_cases h : req = earliest
  · subst h
    refine ⟨db, List.suffix_refl _, ?_, ?_, ?_⟩ <;> simp [scan, reqBytes, negotiate, respMatches]
  · have h' : (req == earliest) = false := by simp [h]
    obtain ⟨rest, hs, h1, h2, h3⟩ := skip_go d req db none earliest rfl
    refine ⟨rest, hs, ?_, ?_, ?_⟩
    · simp only [scan, reqBytes, h', Bool.false_eq_true, if_false]
      rw [← h1]
    · simp only [negotiate, h', Bool.false_eq_true, if_false]; exact h2
    · simp only [scan, reqBytes, negotiate, h', Bool.false_eq_true, if_false]; exact h3

theorem takeWhile_enc (d : Bool) (toSeq : Nat) : ∀ rest : List (Nat × Update), (∀ e ∈ rest, e.1 < 2 ^ 64) →
    (rest.map (enc d)).takeWhile (fun e => be64Val e.1 ≤ toSeq) =
      (rest.takeWhile (fun e => e.1 ≤ toSeq)).map (enc d)
  | [], _ => rfl
  | e :: es, h => by
    have ih := takeWhile_enc d toSeq es (fun x hx => h x (List.mem_cons_of_mem _ hx))
    simp only [List.map_cons, List.takeWhile_cons, be64Val_enc d e (h e (List.mem_cons_self ..)), ih]
    split <;> simp

/-- The scan on bytes, decoded: the response id `negotiate` computes, and of the updates it replays (those of a
    suffix `rest` of the history) exactly the ones up to the cut. -/
theorem scan_decode (rt : RT) (d : Bool) (b : Bucket) (db : List (Nat × Update)) (req : Str) (toSeq : Nat)
    (wf : WellFormed d b db) (hr : ∀ e ∈ db, e.2.retry < 2 ^ 64) :
    ∃ rest, rest <:+ db ∧ (negotiate db req).2 = rest.map (·.2) ∧
      respMatches (scan (reqBytes req) toSeq b).1 (negotiate db req).1 ∧
      decodeAll (scan (reqBytes req) toSeq b).2 = some ((rest.takeWhile (fun e => e.1 ≤ toSeq)).map (·.2)) := by
  obtain ⟨hb, _, hlt⟩ := (wf_iff d b db).mp wf
  obtain ⟨rest, hs, h1, h2, h3⟩ := scan_todo d b db req toSeq hb
  refine ⟨rest, hs, h2, h3, ?_⟩
  rw [h1, takeWhile_enc d toSeq rest (fun e he => hlt e (hs.subset he))]
  exact decodeAll_enc rt d _ (fun e he => hr e (hs.subset ((List.takeWhile_sublist _).subset he)))

/-- **The history scan on bytes is `negotiate` on the abstract history** (sequential case: nothing
    stored after `toSeq`): same response id, and the values decode to exactly the updates to replay. -/
theorem scan_refines (rt : RT) (d : Bool) (b : Bucket) (db : List (Nat × Update)) (req : Str) (toSeq : Nat)
    (wf : WellFormed d b db) (hr : ∀ e ∈ db, e.2.retry < 2 ^ 64) (hto : ∀ e ∈ db, e.1 ≤ toSeq) :
    respMatches (scan (reqBytes req) toSeq b).1 (negotiate db req).1 ∧
    decodeAll (scan (reqBytes req) toSeq b).2 = some (negotiate db req).2 := by
  obtain ⟨rest, hs, h2, h3, h4⟩ := scan_decode rt d b db req toSeq wf hr
  refine ⟨h3, ?_⟩
  -- nothing is cut
  have hall : rest.takeWhile (fun e => decide (e.1 ≤ toSeq)) = rest := by
    simpa using List.takeWhile_append_of_pos (l₂ := []) (p := fun e : Nat × Update => decide (e.1 ≤ toSeq))
      (fun e he => by simpa using hto e (hs.subset he))
  rw [h4, h2, hall]

theorem length_takeWhile_le_filter {α} (p : α → Bool) : ∀ l : List α,
    (l.takeWhile p).length ≤ (l.filter p).length
  | [] => Nat.le_refl _
  | a :: as => by
    have := length_takeWhile_le_filter p as
    simp only [List.takeWhile_cons, List.filter_cons]
    split <;> simp <;> omega

/-- with a cut: entries stored after `toSeq` are not replayed (they are dispatched live) -/
theorem scan_cut (rt : RT) (d : Bool) (b : Bucket) (db : List (Nat × Update)) (req : Str) (toSeq : Nat)
    (wf : WellFormed d b db) (hr : ∀ e ∈ db, e.2.retry < 2 ^ 64) :
    ∃ us, decodeAll (scan (reqBytes req) toSeq b).2 = some us ∧
      us.Sublist (negotiate db req).2 ∧ us.length ≤ (db.filter (fun e => e.1 ≤ toSeq)).length := by
  obtain ⟨rest, hs, h2, _, h4⟩ := scan_decode rt d b db req toSeq wf hr
  refine ⟨_, h4, h2 ▸ (List.takeWhile_sublist _).map _, ?_⟩
  rw [List.length_map]
  exact Nat.le_trans (length_takeWhile_le_filter _ rest) (hs.sublist.filter _).length_le

/-- `getDBLastEventID` after a restart: the id of the last stored update -/
theorem lastEventId_refines (d : Bool) (st : St) (db : List (Nat × Update)) (wf : WellFormed d st.bucket db) :
    lastEventIdBytes st = db.getLast?.map (fun e => utf8Bytes e.2.id) := by
  obtain ⟨hb, _, _⟩ := (wf_iff d st.bucket db).mp wf
  simp only [lastEventIdBytes, hb, List.getLast?_map, Option.map_map]
  rfl

end Mercure.BoltStore

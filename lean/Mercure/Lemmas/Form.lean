import Mercure.Model.Form
/-
  Lemmas about Mercure.Model.Form — what a client form-encodes is what the hub decodes.
-/
namespace Mercure.Form
open Mercure

/-! ### escape / unescape -/

/-- a byte written as it is is neither an escape character ('%' 37, '+' 43) nor a separator
    ('&' 38, ';' 59, '=' 61) -/
theorem keep_ne (b : UInt8) (h : keep b = true) : (b ≠ 37 ∧ b ≠ 43) ∧ b ≠ 38 ∧ b ≠ 59 ∧ b ≠ 61 := by
  refine ⟨⟨?_, ?_⟩, ?_, ?_, ?_⟩ <;> (intro e; subst e; revert h; decide)

theorem unescape_cons_other (b : UInt8) (rest : Bytes) (h1 : b ≠ 37) (h2 : b ≠ 43) :
    unescape (b :: rest) = (unescape rest).map (b :: ·) := by
  rw [unescape.eq_def]
  split
  · simp_all
  · simp_all
  · simp_all
  · simp_all
  · rename_i h; cases h; rfl

theorem hexVal_hexUpper : ∀ n : Fin 16, hexVal (hexUpper n.val) = some n.val := by decide

theorem unescape_pct (a b : UInt8) (rest r : Bytes) (x y : Nat) (ha : hexVal a = some x) (hb : hexVal b = some y)
    (hr : unescape rest = some r) :
    unescape (37 :: a :: b :: rest) = some (UInt8.ofNat (x * 16 + y) :: r) := by
  rw [unescape, ha, hb, hr]

theorem unescape_plus (rest : Bytes) : unescape (43 :: rest) = (unescape rest).map (32 :: ·) := by
  rw [unescape]

/-- `QueryUnescape(QueryEscape(s)) = s` for every byte string -/
theorem unescape_escape (b : Bytes) : unescape (escape b) = some b := by
  induction b with
  | nil => rfl
  | cons b rest ih =>
    simp only [escape]
    by_cases hk : keep b = true
    · have := (keep_ne b hk).1
      simp only [hk, if_true, List.singleton_append]
      rw [unescape_cons_other b _ this.1 this.2, ih]; rfl
    · simp only [hk, Bool.false_eq_true, if_false]
      by_cases h32 : b = 32
      · subst h32
        simp only [beq_self_eq_true, if_true, List.singleton_append]
        rw [unescape_plus, ih]; rfl
      · have : (b == 32) = false := by simp [h32]
        simp only [this, Bool.false_eq_true, if_false, List.cons_append, List.nil_append]
        have h1 := hexVal_hexUpper ⟨b.toNat / 16, by have := b.toNat_lt; omega⟩
        have h2 := hexVal_hexUpper ⟨b.toNat % 16, by omega⟩
        rw [unescape_pct _ _ _ _ _ _ h1 h2 ih]
        simp only
        rw [Nat.div_add_mod']
        simp

theorem hexUpper_ne (n : Fin 16) : hexUpper n.val ≠ 38 ∧ hexUpper n.val ≠ 59 ∧ hexUpper n.val ≠ 61 := by
  revert n; decide

/-- an escaped string contains no separator: neither '&' (38) nor ';' (59) nor '=' (61) -/
theorem escape_no_separator (b : Bytes) : ∀ c ∈ escape b, c ≠ 38 ∧ c ≠ 59 ∧ c ≠ 61 := by
  induction b with
  | nil => intro c h; cases h
  | cons b rest ih =>
    intro c hc
    simp only [escape, List.mem_append] at hc
    rcases hc with hc | hc
    · by_cases hk : keep b = true
      · simp only [hk, if_true, List.mem_singleton] at hc
        subst hc; exact (keep_ne _ hk).2
      · simp only [hk, Bool.false_eq_true, if_false] at hc
        split at hc
        · simp only [List.mem_singleton] at hc; subst hc; decide
        · simp only [List.mem_cons, List.not_mem_nil, or_false] at hc
          rcases hc with hc | hc | hc
          · subst hc; decide
          · subst hc; exact hexUpper_ne ⟨b.toNat / 16, by have := b.toNat_lt; omega⟩
          · subst hc; exact hexUpper_ne ⟨b.toNat % 16, by omega⟩
    · exact ih c hc


/-! ### splitting and the fold of `parseQuery` -/

theorem splitOn_ne_nil (sep : UInt8) (a : Bytes) : splitOn sep a ≠ [] := by
  induction a with
  | nil => simp [splitOn]
  | cons c rest ih =>
    simp only [splitOn]
    split
    · simp
    · split <;> simp

theorem splitOn_not_mem (sep : UInt8) (a : Bytes) (h : sep ∉ a) : splitOn sep a = [a] := by
  induction a with
  | nil => rfl
  | cons c rest ih =>
    simp only [List.mem_cons, not_or] at h
    have hc : (c == sep) = false := by simp; exact fun e => h.1 e.symm
    simp [splitOn, hc, ih h.2]

theorem splitOn_append (sep : UInt8) (a b : Bytes) (h : sep ∉ a) :
    splitOn sep (a ++ sep :: b) = a :: splitOn sep b := by
  induction a with
  | nil => simp [splitOn]
  | cons c rest ih =>
    simp only [List.mem_cons, not_or] at h
    have hc : (c == sep) = false := by simp; exact fun e => h.1 e.symm
    simp [splitOn, hc, ih h.2]

/-- An encoded pair holds neither `&` nor `;`: escaped text has none, and what joins the two halves is `=`. -/
theorem encodePair_no_sep (kv : Bytes × Bytes) : (38 : UInt8) ∉ encodePair kv ∧ (59 : UInt8) ∉ encodePair kv := by
  constructor <;> intro h <;> simp only [encodePair, List.mem_append, List.mem_singleton] at h <;>
    rcases h with (h | h) | h
  · exact (escape_no_separator _ _ h).1 rfl
  · revert h; decide
  · exact (escape_no_separator _ _ h).1 rfl
  · exact (escape_no_separator _ _ h).2.1 rfl
  · revert h; decide
  · exact (escape_no_separator _ _ h).2.1 rfl

theorem splitOn_encodePairs (kv : Bytes × Bytes) (kvs : List (Bytes × Bytes)) :
    splitOn 38 (encodePairs (kv :: kvs)) = (kv :: kvs).map encodePair := by
  induction kvs generalizing kv with
  | nil => simp [encodePairs, splitOn_not_mem _ _ (encodePair_no_sep kv).1]
  | cons kv' rest ih =>
    rw [encodePairs]
    · rw [List.append_assoc, List.singleton_append, splitOn_append _ _ _ (encodePair_no_sep kv).1, ih]
      rfl
    · simp

theorem cutEq_encodePair (k v : Bytes) : cutEq (encodePair (k, v)) = (escape k, escape v) := by
  have ha : ∀ x ∈ escape k, (x != 61) = true := by
    intro x hx; simpa using (escape_no_separator k x hx).2.2
  simp only [cutEq, encodePair, List.append_assoc, List.singleton_append]
  rw [List.takeWhile_append_of_pos ha, List.dropWhile_append_of_pos ha]
  simp

/-- the step function of `parseQuery` -/
def pqStep (acc : List (Bytes × Bytes) × Bool) (piece : Bytes) : List (Bytes × Bytes) × Bool :=
    if piece.contains 59 then (acc.1, true)
    else if piece.isEmpty then acc
    else
      let (k, v) := cutEq piece
      match unescape k with
      | none => (acc.1, true)
      | some k' =>
        match unescape v with
        | none => (acc.1, true)
        | some v' => (acc.1 ++ [(k', v')], acc.2)

theorem parseQuery_eq (q : Bytes) : parseQuery q = (splitOn 38 q).foldl pqStep ([], false) := rfl

theorem pqStep_encodePair (acc : List (Bytes × Bytes) × Bool) (kv : Bytes × Bytes) :
    pqStep acc (encodePair kv) = (acc.1 ++ [kv], acc.2) := by
  obtain ⟨k, v⟩ := kv
  have h1 : (encodePair (k, v)).contains 59 = false := by
    simpa using (encodePair_no_sep (k, v)).2
  have h2 : (encodePair (k, v)).isEmpty = false := by
    simp [encodePair]
  simp only [pqStep, h1, h2, cutEq_encodePair, unescape_escape, Bool.false_eq_true, if_false]

theorem foldl_pqStep (kvs : List (Bytes × Bytes)) (acc : List (Bytes × Bytes)) (e : Bool) :
    (kvs.map encodePair).foldl pqStep (acc, e) = (acc ++ kvs, e) := by
  induction kvs generalizing acc with
  | nil => simp
  | cons kv rest ih =>
    simp only [List.map_cons, List.foldl_cons, pqStep_encodePair, ih]
    simp

/-- **Round trip of the form encoding**: any list of key/value pairs (any bytes, empty keys and values
    included), encoded the way clients do, is decoded by `url.ParseQuery` to the same pairs in the same
    order, without error. -/
theorem parseQuery_encodePairs (kvs : List (Bytes × Bytes)) : parseQuery (encodePairs kvs) = (kvs, false) := by
  cases kvs with
  | nil => rfl
  | cons kv rest =>
    rw [parseQuery_eq, splitOn_encodePairs, foldl_pqStep]; simp

/-! ### UTF-8: strings as the bytes `String.fromUTF8?` reads back -/

theorem utf8Bytes_toByteArray (s : Str) : (⟨(utf8Bytes s).toArray⟩ : ByteArray) = s.utf8Encode := by
  simp only [List.utf8Encode, utf8Bytes]
  generalize List.flatMap String.utf8EncodeChar s = l
  have := List.data_toByteArray (l := l)
  cases h : l.toByteArray with
  | mk d => rw [h] at this; simp only at this; rw [this]

theorem toStr_utf8Bytes (s : Str) : toStr (utf8Bytes s) = some s := by
  unfold toStr
  rw [utf8Bytes_toByteArray]
  have hv : s.utf8Encode.IsValidUTF8 := ByteArray.isValidUTF8_utf8Encode
  simp only [String.fromUTF8?, hv, dite_true, Option.map_some]
  congr 1
  have : String.fromUTF8 s.utf8Encode hv = String.ofList s := by
    apply String.toByteArray_inj.1
    simp [String.fromUTF8]
  rw [this, String.toList_ofList]

theorem utf8Bytes_inj {a b : Str} : utf8Bytes a = utf8Bytes b ↔ a = b :=
  ⟨fun h => Option.some.inj (by rw [← toStr_utf8Bytes a, h, toStr_utf8Bytes]), congrArg _⟩

/-- keys given as strings are compared as strings -/
theorem utf8Bytes_beq (a b : Str) : (utf8Bytes a == utf8Bytes b) = (a == b) := by
  rw [Bool.eq_iff_iff]; simp [utf8Bytes_inj]

/-! ### the fields read by `PublishHandler` -/

/-- the body a publisher sends for an update -/
def bodyOf (topics : List Str) (retry data id type : Str) (priv : Bool) : Bytes :=
  encodePairs (topics.map (fun t => (utf8Bytes "topic".toList, utf8Bytes t)) ++
    [(utf8Bytes "data".toList, utf8Bytes data), (utf8Bytes "id".toList, utf8Bytes id),
     (utf8Bytes "type".toList, utf8Bytes type), (utf8Bytes "retry".toList, utf8Bytes retry)] ++
    (if priv then [(utf8Bytes "private".toList, utf8Bytes "on".toList)] else []))

theorem valuesOf_nil (key : Str) : valuesOf [] key = [] := rfl

theorem valuesOf_cons (k : Str) (v : Bytes) (rest : List (Bytes × Bytes)) (key : Str) :
    valuesOf ((utf8Bytes k, v) :: rest) key = if k == key then v :: valuesOf rest key else valuesOf rest key := by
  simp only [valuesOf, List.filter_cons, utf8Bytes_beq]
  split <;> rfl

theorem valuesOf_append (a b : List (Bytes × Bytes)) (key : Str) :
    valuesOf (a ++ b) key = valuesOf a key ++ valuesOf b key := by
  simp [valuesOf]

theorem valuesOf_map_const {α} (K : Bytes) (f : α → Bytes) (ts : List α) (key : Str) :
    valuesOf (ts.map (fun t => (K, f t))) key = if K == utf8Bytes key then ts.map f else [] := by
  have ht : ts.filter (fun _ => true) = ts := List.filter_eq_self.2 (fun _ _ => rfl)
  cases h : (K == utf8Bytes key) <;> simp [valuesOf, List.filter_map, Function.comp_def, h, ht]

theorem mapM_toStr (ts : List Str) : ts.mapM (toStr ∘ utf8Bytes) = some ts := by
  induction ts with
  | nil => rfl
  | cons t ts ih => simp [List.mapM_cons, toStr_utf8Bytes, ih]

/-- **What `PublishHandler` reads is what was posted**: topics in order, data, id, type, the retry
    text and the private flag — for all UTF-8 strings (line breaks, '&', '=', '+', '%', ';', spaces, non-ASCII…). -/
theorem fieldsOf_bodyOf (topics : List Str) (retry data id type : Str) (priv : Bool)
    (hlen : (bodyOf topics retry data id type priv).length ≤ maxFormSize) :
    fieldsOf (bodyOf topics retry data id type priv) =
      some { formOk := true, topics := topics, retry := retry, priv := priv, data := data, id := id, type := type } := by
  unfold fieldsOf parsePostForm
  rw [if_neg (by omega)]
  unfold bodyOf
  rw [parseQuery_encodePairs]
  simp only [getFirst, valuesOf_append, valuesOf_map_const, utf8Bytes_beq, valuesOf_cons]
  cases priv <;> simp [valuesOf_cons, valuesOf_nil, mapM_toStr, toStr_utf8Bytes]

/-- **A body over the limit is never read in part**: whatever it contains, `ParseForm` fails and no field
    (topic, data, id, type, retry, private) is taken from it. -/
theorem fieldsOf_too_large (body : Bytes) (h : maxFormSize < body.length) :
    fieldsOf body =
      some { formOk := false, topics := [], retry := [], priv := false, data := [], id := [], type := [] } := by
  unfold fieldsOf parsePostForm
  rw [if_pos h]
  decide

end Mercure.Form

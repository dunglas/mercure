import Mercure.Lemmas.SysSafety
/-
  Deadlock freedom over the region-level model (`Mercure.Sys`), repaired flags: the recorded holder of every lock is a
  thread inside the region the lock protects (`InvX`, kept by the transitions of `SysTrans`), and what a thread inside
  a region can be waiting for (`Stream.waitsFor`) lies further in, so the holder of the innermost held lock moves.
-/
namespace Mercure.Sys.Progress
open Mercure.Sys

/-! ### projections (the equations of `SysTrans`, under this namespace's names; `simp` finds either) -/

@[simp] theorem setThread_flags (σ : Sys) (i : Nat) (F : Thread → Thread) : (setThread σ i F).flags = σ.flags := rfl
@[simp] theorem setThread_tr (σ : Sys) (i : Nat) (F : Thread → Thread) : (setThread σ i F).tr = σ.tr := rfl
@[simp] theorem setThread_subs (σ : Sys) (i : Nat) (F : Thread → Thread) : (setThread σ i F).subs = σ.subs := rfl
@[simp] theorem setThread_panic (σ : Sys) (i : Nat) (F : Thread → Thread) : (setThread σ i F).panic = σ.panic := rfl
@[simp] theorem setTr_tr (σ : Sys) (g : Tr → Tr) : (setTr σ g).tr = g σ.tr := rfl
@[simp] theorem setTr_flags (σ : Sys) (g : Tr → Tr) : (setTr σ g).flags = σ.flags := rfl
@[simp] theorem setTr_subs (σ : Sys) (g : Tr → Tr) : (setTr σ g).subs = σ.subs := rfl
@[simp] theorem setTr_threads (σ : Sys) (g : Tr → Tr) : (setTr σ g).threads = σ.threads := rfl
@[simp] theorem setTr_panic (σ : Sys) (g : Tr → Tr) : (setTr σ g).panic = σ.panic := rfl
@[simp] theorem setSub_tr (σ : Sys) (s : Nat) (f : Sub → Sub) : (setSub σ s f).tr = σ.tr := rfl
@[simp] theorem setSub_flags (σ : Sys) (s : Nat) (f : Sub → Sub) : (setSub σ s f).flags = σ.flags := rfl
@[simp] theorem setSub_threads (σ : Sys) (s : Nat) (f : Sub → Sub) : (setSub σ s f).threads = σ.threads := rfl
@[simp] theorem setSub_panic (σ : Sys) (s : Nat) (f : Sub → Sub) : (setSub σ s f).panic = σ.panic := rfl

@[simp] theorem getSub_setThread (σ : Sys) (i : Nat) (F : Thread → Thread) (s : Nat) :
    getSub (setThread σ i F) s = getSub σ s := rfl
@[simp] theorem getSub_setTr (σ : Sys) (g : Tr → Tr) (s : Nat) : getSub (setTr σ g) s = getSub σ s := rfl

/-! ### regions -/

def isSub : Frame → Bool
  | .sDispatch .. | .sReady .. | .sDisconnect .. => true
  | _ => false

/-- Stacks have at most two frames; a callee is always a subscriber procedure on a transport one. -/
def okStack : List Frame → Bool
  | [] => true
  | [_] => true
  | [f, g] => isSub f && !isSub g
  | _ => false

def frameOut : Frame → Option Nat
  | .sDispatch s _ _ pc => if 4 ≤ pc then some s else none
  | .sReady s pc _ => if 2 ≤ pc then some s else none
  | .sDisconnect s pc => if 2 ≤ pc then some s else none
  | _ => none

def holdsOut : List Frame → Option Nat
  | fr :: _ => frameOut fr
  | [] => none

def frameLive : Frame → Option Nat
  | .sReady s pc _ => if 1 ≤ pc then some s else none
  | _ => none

def holdsLive : List Frame → Option Nat
  | fr :: _ => frameLive fr
  | [] => none

/-- Inside the transport lock. Bolt's `AddSubscriber` unlocks with `sl.Add` (`pc = 2`) and scans the history in a read
    transaction (`frameReading`: `pc = 4`, and `pc = 8` between two entries; at `pc = 7` it is over); the local one
    holds the lock up to its deferred `Unlock`. In `Close` Bolt closes `t.closed` before it locks, the local transport
    after: hence the lock from `pc = 3` and from `pc = 2`. -/
def frameWriter (k : Kind) : Frame → Bool
  | .tDispatch _ pc _ => decide (2 ≤ pc)
  | .tAdd _ pc _ _ _ => match k with | .bolt => pc == 2 | .local => pc == 2 || decide (4 ≤ pc)
  | .tRemove _ pc => decide (2 ≤ pc)
  | .tClose pc _ => match k with | .bolt => decide (3 ≤ pc) | .local => decide (2 ≤ pc)
  | _ => false

def holdsWriter (k : Kind) (stk : List Frame) : Bool := stk.any (frameWriter k)

def frameOnce : Frame → Bool
  | .tClose pc _ => decide (1 ≤ pc)
  | _ => false

def inOnce (stk : List Frame) : Bool := stk.any frameOnce

def frameReading : Frame → Bool
  | .tAdd _ pc _ _ _ => decide (4 ≤ pc) && pc != 7
  | _ => false

def reading (stk : List Frame) : Bool := stk.any frameReading

@[simp] theorem holdsOut_cons (fr : Frame) (rest : List Frame) : holdsOut (fr :: rest) = frameOut fr := rfl
@[simp] theorem holdsOut_nil : holdsOut [] = none := rfl
@[simp] theorem holdsLive_cons (fr : Frame) (rest : List Frame) : holdsLive (fr :: rest) = frameLive fr := rfl
@[simp] theorem holdsLive_nil : holdsLive [] = none := rfl
@[simp] theorem okStack_nil : okStack [] = true := rfl
@[simp] theorem okStack_single (f : Frame) : okStack [f] = true := rfl
@[simp] theorem okStack_pair (f g : Frame) : okStack [f, g] = (isSub f && !isSub g) := rfl
@[simp] theorem holdsWriter_cons (k : Kind) (fr : Frame) (rest : List Frame) :
    holdsWriter k (fr :: rest) = (frameWriter k fr || holdsWriter k rest) := rfl
@[simp] theorem holdsWriter_nil (k : Kind) : holdsWriter k [] = false := rfl
@[simp] theorem inOnce_cons (fr : Frame) (rest : List Frame) : inOnce (fr :: rest) = (frameOnce fr || inOnce rest) := rfl
@[simp] theorem inOnce_nil : inOnce [] = false := rfl
@[simp] theorem reading_cons (fr : Frame) (rest : List Frame) : reading (fr :: rest) = (frameReading fr || reading rest) := rfl
@[simp] theorem reading_nil : reading [] = false := rfl

/-- The lock/region invariant: the recorded holder of a lock is a thread inside the region the lock protects,
    and (Bolt) every open read transaction belongs to a thread inside `db.View`. -/
structure InvX (σ : Sys) : Prop where
  outF : ∀ s j, (getSub σ s).outOwner = some j → ∃ th : Thread, σ.threads[j]? = some th ∧ holdsOut th.stack = some s
  liveF : ∀ s j, (getSub σ s).liveOwner = some j → ∃ th : Thread, σ.threads[j]? = some th ∧ holdsLive th.stack = some s
  wrF : ∀ j, σ.tr.writer = some j → ∃ th : Thread, σ.threads[j]? = some th ∧ holdsWriter σ.tr.kind th.stack = true
  onceF : ∀ j, σ.tr.onceRunning = some j → ∃ th : Thread, σ.threads[j]? = some th ∧ inOnce th.stack = true
  rd : σ.tr.kind = .bolt → σ.tr.readers ≤ σ.threads.countP (fun t => reading t.stack)

/-! ### one resource, one step -/

/-- Thread `i` changes the owner field of one resource (`h`, `h'`: whether `i` is inside its region before and
    after): the owner stays and `i`, if it was inside, still is, or `i` becomes the owner and is inside, or nobody
    owns it. -/
def OwnEff (own own' : Option Nat) (i : Nat) (h h' : Bool) : Prop :=
  (own' = own ∧ (h = true → h' = true)) ∨ (own' = some i ∧ h' = true) ∨ own' = none

/-- One resource: if its owner was inside the region `holds` and thread `i`'s step is an `OwnEff`, its owner still is. -/
theorem res_fwd {threads threads' : List Thread} {i : Nat} {th th' : Thread}
    (holds : List Frame → Bool) (own own' : Option Nat)
    (hth : threads[i]? = some th) (hi : threads'[i]? = some th')
    (ho : ∀ j, j ≠ i → threads'[j]? = threads[j]?)
    (h : ∀ j, own = some j → ∃ t, threads[j]? = some t ∧ holds t.stack = true)
    (eff : OwnEff own own' i (holds th.stack) (holds th'.stack)) :
    ∀ j, own' = some j → ∃ t, threads'[j]? = some t ∧ holds t.stack = true := by
  intro j hj
  rcases eff with ⟨e, hh⟩ | ⟨e, hh⟩ | e
  · rw [e] at hj
    obtain ⟨t, ht, hht⟩ := h j hj
    by_cases hji : j = i
    · subst hji
      rw [hth] at ht; cases ht
      exact ⟨th', hi, hh hht⟩
    · exact ⟨t, by rw [ho j hji]; exact ht, hht⟩
  · rw [e] at hj; cases hj
    exact ⟨th', hi, hh⟩
  · rw [e] at hj; cases hj

@[simp] theorem retOf_stack (stk : List Frame) (t : Thread) (r l) : (retOf stk t r l).stack = stk := rfl

/-- A subscriber mutex (`own`: its owner field; `holds`: the subscriber inside whose mutex a stack is) under the
    update `sf`: the owner fields are not touched and thread `i` stays where it was, or `i` acquires the mutex of
    `s0`, or `i` releases it. -/
def LockEff (own : Sub → Option Nat) (holds : List Frame → Option Nat) (i : Nat) (sf : Option (Nat × (Sub → Sub)))
    (stk stk' : List Frame) : Prop :=
  match sf with
  | none => holds stk' = holds stk
  | some (s0, f) =>
    ((∀ b, own (f b) = own b) ∧ holds stk' = holds stk)
    ∨ ((∀ b, own (f b) = some i) ∧ holds stk = none ∧ holds stk' = some s0)
    ∨ ((∀ b, own (f b) = none) ∧ holds stk = some s0 ∧ holds stk' = none)

/-- Bolt: the reader count against whether thread `i` is inside `db.View` before (`h`) and after (`h'`).
    The premise, which always holds, is there for `omega`. -/
def RdEff (rd rd' : Nat) (h h' : Bool) : Prop := h.toNat ≤ 1 → rd' ≤ rd - h.toNat + h'.toNat

section
variable {σ : Sys} {sf : Option (Nat × (Sub → Sub))} {g : Tr → Tr} {i : Nat} {st : List Frame}
  {r : Option Ret} {l : Option Bool} {th : Thread}

/-- `res_fwd` for the mutex `own` of every subscriber at once, under the canonical effect. -/
theorem lock_fwd (own : Sub → Option Nat) (holds : List Frame → Option Nat)
    (hdef : own { topics := [] } = none)
    (hth : σ.threads[i]? = some th)
    (h : ∀ s j, own (getSub σ s) = some j → ∃ t, σ.threads[j]? = some t ∧ holds t.stack = some s)
    (eff : LockEff own holds i sf th.stack st) :
    ∀ s j, own (getSub (Stream.upd σ i sf g st l r) s) = some j →
      ∃ t, (Stream.upd σ i sf g st l r).threads[j]? = some t ∧ holds t.stack = some s := by
  intro s
  have key := res_fwd (threads := σ.threads) (threads' := (Stream.upd σ i sf g st l r).threads)
    (fun stk => holds stk == some s) (own (getSub σ s)) (own (getSub (Stream.upd σ i sf g st l r) s))
    hth (Stream.upd_threads_self hth) (fun _ hj => Stream.upd_threads_other hj)
    (by simpa using h s)
  simp only [OwnEff, beq_iff_eq, retOf_stack] at key
  apply key
  rw [Stream.getSub_upd]
  match sf, eff with
  | none, eff => left; exact ⟨rfl, by rw [eff]; exact id⟩
  | some (s0, f), eff =>
    rw [Stream.updSub_some, Stream.getSub_setSub]
    by_cases hs : s = s0 ∧ s0 < σ.subs.length
    · obtain ⟨rfl, hlen⟩ := hs
      rw [if_pos ⟨rfl, hlen⟩]
      rcases eff with ⟨e, hh⟩ | ⟨e, _, hh⟩ | ⟨e, _, _⟩
      · left; exact ⟨e _, by rw [hh]; exact id⟩
      · right; left; exact ⟨e _, hh⟩
      · right; right; exact e _
    · rw [if_neg hs]
      by_cases hlen : s < σ.subs.length
      · -- another subscriber: `i` is inside its region after the step if it was before
        have hne : s ≠ s0 := fun e => hs ⟨e, e ▸ hlen⟩
        left; refine ⟨rfl, ?_⟩
        rcases eff with ⟨_, hh⟩ | ⟨_, h1, h2⟩ | ⟨_, h1, h2⟩
        · rw [hh]; exact id
        · rw [h1]; intro hc; cases hc
        · rw [h1]; intro hc; cases hc; exact absurd rfl hne
      · right; right
        rw [Stream.getSub_of_ge (Nat.le_of_not_lt hlen)]; exact hdef

theorem countP_upd (p : Thread → Bool) (hth : σ.threads[i]? = some th) :
    (Stream.upd σ i sf g st l r).threads.countP p
      = σ.threads.countP p - (p th).toNat + (p (retOf st th r l)).toNat ∧ (p th).toNat ≤ σ.threads.countP p := by
  obtain ⟨hl, he⟩ := List.getElem?_eq_some_iff.1 hth
  have e : (Stream.upd σ i sf g st l r).threads = σ.threads.set i (retOf st th r l) := by
    apply List.ext_getElem?
    intro j
    by_cases hj : j = i
    · subst hj; simp [Stream.upd_threads_self hth, hl]
    · rw [Stream.upd_threads_other hj, List.getElem?_set_ne (Ne.symm hj)]
  rw [e, List.countP_set hl, he]
  have := List.boole_getElem_le_countP (p := p) hl
  rw [he] at this
  constructor
  · cases p th <;> cases p (retOf st th r l) <;> simp
  · cases h : p th <;> simp [h] at this ⊢; exact this

/-- What the update `sf`, `g` and the change of thread `i`'s stack from `stk` to `stk'` do to each lock. -/
structure Conds (σ : Sys) (i : Nat) (sf : Option (Nat × (Sub → Sub))) (g : Tr → Tr) (stk stk' : List Frame) : Prop where
  kind : (g σ.tr).kind = σ.tr.kind
  out : LockEff Sub.outOwner holdsOut i sf stk stk'
  live : LockEff Sub.liveOwner holdsLive i sf stk stk'
  wr : OwnEff σ.tr.writer (g σ.tr).writer i (holdsWriter σ.tr.kind stk) (holdsWriter σ.tr.kind stk')
  once : OwnEff σ.tr.onceRunning (g σ.tr).onceRunning i (inOnce stk) (inOnce stk')
  rd : σ.tr.kind = .bolt → RdEff σ.tr.readers (g σ.tr).readers (reading stk) (reading stk')

theorem invX_upd (h : InvX σ) (hth : σ.threads[i]? = some th) (c : Conds σ i sf g th.stack st) :
    InvX (Stream.upd σ i sf g st l r) := by
  refine ⟨?_, ?_, ?_, ?_, ?_⟩
  · exact lock_fwd Sub.outOwner holdsOut rfl hth h.outF c.out
  · exact lock_fwd Sub.liveOwner holdsLive rfl hth h.liveF c.live
  · rw [Stream.upd_tr, c.kind]
    exact res_fwd (holdsWriter σ.tr.kind) σ.tr.writer (g σ.tr).writer hth (Stream.upd_threads_self hth) (fun _ => Stream.upd_threads_other) h.wrF c.wr
  · rw [Stream.upd_tr]
    exact res_fwd inOnce σ.tr.onceRunning (g σ.tr).onceRunning hth (Stream.upd_threads_self hth) (fun _ => Stream.upd_threads_other) h.onceF c.once
  · rw [Stream.upd_tr, c.kind]
    intro hb
    obtain ⟨e, hle⟩ := countP_upd (sf := sf) (g := g) (st := st) (r := r) (l := l) (fun t => reading t.stack) hth
    have h1 := c.rd hb (Bool.toNat_le _)
    have h2 := h.rd hb
    rw [e]
    simp only [retOf_stack]
    omega

end

/-! ### the transitions -/

section
variable (fl : Flags) (sb : Sub) (s toSeq fuel : Nat) (l : List (Nat × Upd)) (resp : Resp)
/-! What the scan loop leaves on the stack: the read transaction stays open. (`.local`: `db.View` is not guarded by the
kind of transport in `step`, so the transition exists for the local transport too, which holds its lock there.) -/
@[simp] theorem regions_scanLoop : holdsOut (scanLoop fl sb s toSeq fuel l resp) = none ∧
    holdsLive (scanLoop fl sb s toSeq fuel l resp) = none ∧ holdsWriter .local (scanLoop fl sb s toSeq fuel l resp) = true ∧
    reading (scanLoop fl sb s toSeq fuel l resp) = true := by
  rcases Stream.scanLoop_shape fl sb s toSeq resp fuel l with e | ⟨_, _, e⟩ <;> rw [e] <;> exact ⟨rfl, rfl, rfl, rfl⟩
end

theorem okStack_of_vs {n : Nat} {op : Op} {stk : List Frame} (h : Stream.VS n op stk) : okStack stk = true := by
  cases h <;> rfl

section
variable (k : Kind) (s : Nat) (q : List Upd) (rest : List Frame)
@[simp] theorem holdsOut_flushStack : holdsOut (Stream.flushStack s q rest) = some s := by cases q <;> rfl
@[simp] theorem holdsLive_flushStack : holdsLive (Stream.flushStack s q rest) = some s := by cases q <;> rfl
@[simp] theorem holdsWriter_flushStack : holdsWriter k (Stream.flushStack s q rest) = holdsWriter k rest := by
  cases q <;> rfl
@[simp] theorem inOnce_flushStack : inOnce (Stream.flushStack s q rest) = inOnce rest := by cases q <;> rfl
@[simp] theorem reading_flushStack : reading (Stream.flushStack s q rest) = reading rest := by cases q <;> rfl
end

/-- Below a subscriber procedure there is at most a transport frame, below a transport frame nothing. -/
theorem rest_facts {fr : Frame} {rest : List Frame} (hok : okStack (fr :: rest) = true) :
    holdsOut rest = none ∧ holdsLive rest = none ∧ (isSub fr = false → rest = []) := by
  match rest, hok with
  | [], _ => simp
  | [g], h => cases g <;> simp_all [isSub, frameOut, frameLive]
  | _ :: _ :: _, h => simp [okStack] at h

theorem trans_conds {σ σp : Sys} {i : Nat} {fr : Frame} {rest : List Frame} (hok : okStack (fr :: rest) = true)
    (h : Stream.Trans σ i (fr :: rest) σp) :
    ∃ sf g st l r, σp = Stream.upd σ i sf g st l r ∧ Conds σ i sf g (fr :: rest) st := by
  obtain ⟨hro, hrl, hr⟩ := rest_facts hok
  -- acquired / released: `outMutex` at sD3 sR1 sX1 / sD4a sD5a sD7 sR2a sR5 sR6 sX2a sX4, `liveMutex` at sR0 / sR2a sR5 sR6,
  -- the transport lock at tD1 tA1 tM1 tC2b tC1l / tD2ba tA2br tA2bn tM2 tC4b, the Once at tC0b / tC4b; a read
  -- transaction begins at tA3b tA3c and ends at tA4. `rest = []` below a transport frame; which frames lie inside the
  -- transport lock depends on the kind of transport at `tAdd` and `tClose` only.
  cases h <;> (try cases hr rfl) <;> exact ⟨_, _, _, _, _, rfl, by simp, by simp [hro, LockEff, frameOut],
    by simp [hrl, LockEff, frameLive], by simp [*, OwnEff, frameWriter] <;> cases hk : σ.tr.kind <;> simp_all,
    by simp [OwnEff, frameOnce], by intro hk hb; simp [hk, frameReading, Stream.endViewTr] at * <;> omega⟩

theorem adm_conds {σ σ' : Sys} {i : Nat} {th : Thread} (hok : okStack th.stack = true) (h : Stream.Adm σ i th σ') :
    ∃ sf g st l r, σ' = Stream.upd σ i sf g st l r ∧ Conds σ i sf g th.stack st := by
  -- the transport lock is released at d9nB d9nL a7L c9nL, the Once at c9nL
  cases h <;> simp only [*] at hok ⊢ <;> cases (rest_facts hok).2.2 rfl <;>
    exact ⟨_, _, _, _, _, rfl, by simp, by simp [LockEff, frameOut], by simp [LockEff, frameLive],
      by simp [*, OwnEff, frameWriter] <;> cases hk : σ.tr.kind <;> simp_all,
      by simp [OwnEff, frameOnce], by intro hk hb; simp [hk, frameReading] at * <;> omega⟩

theorem invX_trans {σ σp : Sys} {i : Nat} {th : Thread} (hS : Stream.Shape σ) (hx : InvX σ)
    (hth : σ.threads[i]? = some th) (h : Stream.Trans σ i th.stack σp) : InvX σp := by
  have hok := okStack_of_vs (hS.vs i th hth)
  cases hst : th.stack with
  | nil => rw [hst] at h; cases h
  | cons fr rest =>
    rw [hst] at h hok
    obtain ⟨sf, g, st, l, r, rfl, c⟩ := trans_conds hok h
    exact invX_upd hx hth (hst ▸ c)

theorem invX_adm {σ σ' : Sys} {i : Nat} {th : Thread} (hS : Stream.Shape σ) (hx : InvX σ)
    (hth : σ.threads[i]? = some th) (h : Stream.Adm σ i th σ') : InvX σ' := by
  obtain ⟨sf, g, st, l, r, rfl, c⟩ := adm_conds (okStack_of_vs (hS.vs i th hth)) h
  exact invX_upd hx hth c

theorem invX_init (kind : Kind) (size : Nat) (subs : List Sub) (ops : List Op) (wf : WellFormed subs ops) :
    InvX (Sys.init Flags.repaired kind size subs ops) := by
  refine ⟨fun s j h => ?_, fun s j h => ?_, fun _ => nofun, fun _ => nofun, fun _ => Nat.zero_le _⟩ <;>
    (obtain ⟨t, r, c, e⟩ := Stream.init_getSub Flags.repaired kind size wf s; rw [e] at h; cases h)

theorem invX_reach (kind : Kind) (size : Nat) (subs : List Sub) (ops : List Op)
    (wf : WellFormed subs ops) (sched : List Nat) :
    Stream.WF (reach Flags.repaired kind size subs ops sched) ∧ InvX (reach Flags.repaired kind size subs ops sched) :=
  have h := Safety.reach_inv (fun _ _ _ _ hW hx hth h => invX_trans hW.shape hx hth h)
    (fun _ _ _ _ _ hS hx hth h => invX_adm hS hx hth h) wf (invX_init kind size subs ops wf) sched
  ⟨h.1, h.2.2⟩

/-! ### what a thread waits for -/

section
variable {σ : Sys} {fr : Frame}

theorem moves_of_not_waits {j : Nat} {th : Thread} {rest : List Frame} (hp : σ.panic = none)
    (hth : σ.threads[j]? = some th) (hstk : th.stack = fr :: rest) (h : ¬ Stream.waitsFor σ fr) :
    ∃ i, (step σ i).moved = true := by
  cases hm : (step σ j).moved with
  | true => exact ⟨j, hm⟩
  | false => exact absurd (Stream.waitsFor_of_not_moved hp hth hstk hm) h

theorem out_not_waits {s : Nat} (ho : frameOut fr = some s) : ¬ Stream.waitsFor σ fr := by
  rcases fr with ⟨s, u, h, _|_|_|_|pc⟩ | ⟨s, _|_|pc, q⟩ | ⟨s, _|_|pc⟩ | _ | _ | _ | _ | _ | _ <;>
    simp [frameOut, Stream.waitsFor] at ho ⊢

theorem live_waits {s : Nat} (hl : frameLive fr = some s) (h : Stream.waitsFor σ fr) :
    ∃ s, (getSub σ s).outOwner.isSome := by
  rcases fr with _ | ⟨s, _|_|pc, q⟩ | _ | _ | _ | _ | _ | _ | _ <;> simp [frameLive, Stream.waitsFor] at hl h
  exact ⟨_, h⟩

theorem sub_waits (hs : isSub fr = true) (h : Stream.waitsFor σ fr) :
    (∃ s, (getSub σ s).outOwner.isSome) ∨ ∃ s, (getSub σ s).liveOwner.isSome := by
  rcases fr with ⟨s, u, h, _|_|_|_|pc⟩ | ⟨s, _|_|pc, q⟩ | ⟨s, _|_|pc⟩ | _ | _ | _ | _ | _ | _ <;>
    simp [isSub, Stream.waitsFor] at hs h <;> first | exact Or.inl ⟨_, h⟩ | exact Or.inr ⟨_, h⟩

theorem reading_not_waits (hr : frameReading fr = true) : ¬ Stream.waitsFor σ fr := by
  rcases fr with _ | _ | _ | _ | ⟨s, _|_|pc, ts, sc, rp⟩ | _ | _ | _ | _ <;>
    simp [frameReading, Stream.waitsFor] at hr ⊢

theorem writer_waits (hf : σ.flags.localMatchLocked = true) (hw : frameWriter σ.tr.kind fr = true)
    (h : Stream.waitsFor σ fr) : σ.tr.kind = .bolt ∧ 0 < σ.tr.readers := by
  rcases fr with _ | _ | _ | ⟨u, _|_|pc, rs⟩ | ⟨s, _|_|pc, ts, sc, rp⟩ | ⟨s, _|_|pc⟩ | ⟨_|_|_|_|pc, td⟩ | _ | _ <;>
    cases hk : σ.tr.kind <;> simp_all [frameWriter, Stream.waitsFor]

theorem once_waits (ho : frameOnce fr = true) (h : Stream.waitsFor σ fr) :
    σ.tr.writer.isSome ∨ (σ.tr.kind = .bolt ∧ 0 < σ.tr.readers) := by
  rcases fr with _ | _ | _ | _ | _ | _ | ⟨_|_|_|_|pc, td⟩ | _ | _ <;>
    cases hk : σ.tr.kind <;> simp_all [frameOnce, Stream.waitsFor]

end

theorem any_shape (P : Frame → Bool) {stk : List Frame} (hok : okStack stk = true) (h : stk.any P = true) :
    ∃ fr rest, stk = fr :: rest ∧ (isSub fr = true ∨ P fr = true) := by
  match stk, hok, h with
  | [], _, h => simp at h
  | [f], _, h => exact ⟨f, [], rfl, Or.inr (by simpa using h)⟩
  | [f, g], hok, _ => exact ⟨f, [g], rfl, Or.inl (by simp at hok; exact hok.1)⟩
  | _ :: _ :: _ :: _, hok, _ => simp [okStack] at hok

theorem exists_unfinished {σ : Sys} (hn : σ.allDone = false) :
    ∃ (i : Nat) (th : Thread) (fr : Frame) (rest : List Frame), σ.threads[i]? = some th ∧ th.stack = fr :: rest := by
  obtain ⟨t, hmem, hfin⟩ := List.all_eq_false.1 hn
  obtain ⟨i, hi⟩ := List.mem_iff_getElem?.1 hmem
  cases hs : t.stack with
  | nil => exfalso; apply hfin; simp [Thread.finished, hs]
  | cons fr rest => exact ⟨i, t, fr, rest, hi, hs⟩

/-- Locks are taken in the order Once, transport lock, read transaction, `liveMutex`, `outMutex`: whoever holds the
    innermost of those that are held waits only for locks further in, and these are free. -/
theorem progress {σ : Sys} (hW : Stream.WF σ) (h : InvX σ) (hp : σ.panic = none) (hn : σ.allDone = false) :
    ∃ i, (step σ i).moved = true := by
  have hf : σ.flags.localMatchLocked = true := by rw [hW.flags]; rfl
  have ok := fun j th hj => okStack_of_vs (hW.shape.vs j th hj)
  -- (a) an `outMutex` is held
  by_cases hout : ∃ s, (getSub σ s).outOwner.isSome
  · obtain ⟨s, hs⟩ := hout
    obtain ⟨j, ho⟩ := Option.isSome_iff_exists.1 hs
    obtain ⟨th, hth, hh⟩ := h.outF s j ho
    cases hstk : th.stack with
    | nil => rw [hstk] at hh; cases hh
    | cons fr rest => rw [hstk] at hh; exact moves_of_not_waits hp hth hstk (out_not_waits hh)
  -- (b) a `liveMutex` is held
  by_cases hlive : ∃ s, (getSub σ s).liveOwner.isSome
  · obtain ⟨s, hs⟩ := hlive
    obtain ⟨j, ho⟩ := Option.isSome_iff_exists.1 hs
    obtain ⟨th, hth, hh⟩ := h.liveF s j ho
    cases hstk : th.stack with
    | nil => rw [hstk] at hh; cases hh
    | cons fr rest => rw [hstk] at hh; exact moves_of_not_waits hp hth hstk (fun hw => hout (live_waits hh hw))
  have sub : ∀ {fr : Frame}, isSub fr = true → ¬ Stream.waitsFor σ fr := fun hs hw => (sub_waits hs hw).elim hout hlive
  -- (c) a read transaction is open
  by_cases hrd : σ.tr.kind = .bolt ∧ 0 < σ.tr.readers
  · obtain ⟨t, hmem, hread⟩ := List.countP_pos_iff.1 (Nat.lt_of_lt_of_le hrd.2 (h.rd hrd.1))
    obtain ⟨j, hj⟩ := List.mem_iff_getElem?.1 hmem
    obtain ⟨fr, rest, hstk, hs | hr⟩ := any_shape frameReading (ok j t hj) hread
    · exact moves_of_not_waits hp hj hstk (sub hs)
    · exact moves_of_not_waits hp hj hstk (reading_not_waits hr)
  -- (d) the transport lock is held
  by_cases hwr : σ.tr.writer.isSome
  · obtain ⟨j, hw⟩ := Option.isSome_iff_exists.1 hwr
    obtain ⟨th, hth, hh⟩ := h.wrF j hw
    obtain ⟨fr, rest, hstk, hs | hw'⟩ := any_shape (frameWriter σ.tr.kind) (ok j th hth) hh
    · exact moves_of_not_waits hp hth hstk (sub hs)
    · exact moves_of_not_waits hp hth hstk (fun hw => hrd (writer_waits hf hw' hw))
  -- (e) the Once is running: its runner is past `once.Do`
  by_cases honce : σ.tr.onceRunning.isSome
  · obtain ⟨j, ho⟩ := Option.isSome_iff_exists.1 honce
    obtain ⟨th, hth, hh⟩ := h.onceF j ho
    obtain ⟨fr, rest, hstk, hs | ho'⟩ := any_shape frameOnce (ok j th hth) hh
    · exact moves_of_not_waits hp hth hstk (sub hs)
    · exact moves_of_not_waits hp hth hstk (fun hw => (once_waits ho' hw).elim hwr hrd)
  -- nothing is held: nobody waits
  obtain ⟨i, th, fr, rest, hth, hstk⟩ := exists_unfinished hn
  exact moves_of_not_waits hp hth hstk fun h =>
    (Stream.waitsFor_busy h).elim hout fun h => h.elim hlive fun h => h.elim hwr fun h => h.elim honce hrd

theorem no_deadlock_of_no_panic (kind : Kind) (size : Nat) (subs : List Sub) (ops : List Op)
    (wf : WellFormed subs ops) (sched : List Nat)
    (hpn : (reach Flags.repaired kind size subs ops sched).panic = none)
    (hn : (reach Flags.repaired kind size subs ops sched).allDone = false) :
    ∃ i, (step (reach Flags.repaired kind size subs ops sched) i).moved = true :=
  have ⟨hW, hx⟩ := invX_reach kind size subs ops wf sched
  progress hW hx hpn hn

/-- **No deadlock**: in every reachable state in which some operation has not returned, some thread can take a
    step (`progress`; that no reachable state has panicked is `Safety.no_panic`). -/
theorem no_deadlock (kind : Kind) (size : Nat) (subs : List Sub) (ops : List Op)
    (wf : WellFormed subs ops) (sched : List Nat)
    (hn : (reach Flags.repaired kind size subs ops sched).allDone = false) :
    ∃ i, (step (reach Flags.repaired kind size subs ops sched) i).moved = true :=
  no_deadlock_of_no_panic kind size subs ops wf sched (Safety.no_panic kind size subs ops wf sched) hn

/-! ### vocabulary that no proof of this file uses -/

theorem setTr_id (σ : Sys) : setTr σ (fun t => t) = σ := rfl

def frameAdmin : Frame → Bool
  | .tDispatch _ pc _ => pc == 9
  | .tAdd _ pc _ _ _ => pc == 7 || pc == 8
  | .tClose pc _ => pc == 9
  | _ => false

def adminTop : List Frame → Bool
  | fr :: _ => frameAdmin fr
  | [] => false

@[simp] theorem adminTop_cons (fr : Frame) (rest : List Frame) : adminTop (fr :: rest) = frameAdmin fr := rfl
@[simp] theorem adminTop_nil : adminTop [] = false := rfl
section
variable (fl : Flags) (sb : Sub) (s toSeq fuel : Nat) (l : List (Nat × Upd)) (resp : Resp)
@[simp] theorem adminTop_scanLoop : adminTop (scanLoop fl sb s toSeq fuel l resp) = false := by
  rcases Stream.scanLoop_shape fl sb s toSeq resp fuel l with e | ⟨_, _, e⟩ <;> rw [e] <;> rfl
end


def frameS : Frame → Nat
  | .sDispatch s _ _ _ | .sReady s _ _ | .sDisconnect s _ => s
  | _ => 0

/-- What a thread inside an `outMutex` region knows about the subscriber. -/
def safeAt : Frame → Sub → Prop
  | .sDispatch _ _ _ pc, b =>
    (pc = 5 ∨ pc = 6 → b.disconnected = false) ∧ (7 ≤ pc → b.disconnected = true ∧ b.outClosed = false)
  | .sReady _ pc _, b =>
    (pc = 3 ∨ pc = 4 → b.disconnected = false) ∧ (pc = 5 → b.disconnected = true ∧ b.outClosed = false)
  | .sDisconnect _ pc, b =>
    (pc = 3 → b.disconnected = false) ∧ (4 ≤ pc → b.disconnected = true ∧ b.outClosed = false)
  | _, _ => True

/-- What `Safety.Locks` maintains about every channel, said with `frameS`/`safeAt`. -/
structure Inv2 (σ : Sys) : Prop where
  closed : ∀ s, (getSub σ s).outClosed = true → (getSub σ s).disconnected = true
  safe : ∀ (j : Nat) (th : Thread) (fr : Frame) (rest : List Frame), σ.threads[j]? = some th →
    th.stack = fr :: rest → frameS fr < σ.subs.length → safeAt fr (getSub σ (frameS fr))

/-- `Stream.upd σ i (some (s0, f)) g stk' l r`: the canonical effect with the subscriber update always there. -/
def mk (σ : Sys) (s0 : Nat) (f : Sub → Sub) (g : Tr → Tr) (i : Nat) (stk' : List Frame)
    (r : Option Ret) (l : Option Bool) : Sys :=
  setThread (setTr (setSub σ s0 f) g) i (fun t => retOf stk' t r l)

section
variable {σ : Sys} {s0 : Nat} {f : Sub → Sub} {g : Tr → Tr} {i : Nat} {stk' : List Frame}
  {r : Option Ret} {l : Option Bool}

@[simp] theorem getSub_mk_id (s : Nat) : getSub (mk σ s0 (fun b => b) g i stk' r l) s = getSub σ s := by
  show getSub (setSub σ s0 fun b => b) s = getSub σ s
  rw [Stream.getSub_setSub]; split
  · rename_i h; rw [h.1]
  · rfl

theorem getSub_mk_self (h : s0 < σ.subs.length) : getSub (mk σ s0 f g i stk' r l) s0 = f (getSub σ s0) := by
  show getSub (setSub σ s0 f) s0 = f (getSub σ s0)
  rw [Stream.getSub_setSub, if_pos ⟨rfl, h⟩]

end

@[simp] theorem ite_getSub (σ : Sys) (s s0 : Nat) [Decidable (s = s0)] :
    (if s = s0 then getSub σ s0 else getSub σ s) = getSub σ s := by
  split
  · rename_i h; rw [h]
  · rfl

/-! ### tactics -/

-- Tactics that unfold `step` at one frame kind (`hf`: any term with projections `f1` … `f6` stating the six flags; none
-- is defined) and close the leaves.

macro "conds_simp" : tactic =>
  `(tactic| simp_all [isSub, frameOut, frameLive, frameWriter, frameOnce, frameReading, frameAdmin,
      LockEff, OwnEff, RdEff])

macro "leaf" : tactic => `(tactic| first | assumption | conds_simp)

macro "step_all" hf:ident hp:ident hth:ident hstk:ident : tactic =>
  `(tactic| (simp [step, $hp:ident, $hth:ident, $hstk:ident, ($hf).f1, ($hf).f2, ($hf).f3, ($hf).f4, ($hf).f5, ($hf).f6]
             repeat' split
             all_goals leaf))

macro "step_all'" hf:ident hp:ident hth:ident hstk:ident hk:ident : tactic =>
  `(tactic| (simp [step, $hp:ident, $hth:ident, $hstk:ident, $hk:ident, ($hf).f1, ($hf).f2, ($hf).f3, ($hf).f4, ($hf).f5, ($hf).f6]
             repeat' split
             all_goals leaf))

macro "move_all" hf:ident hp:ident hth:ident hstk:ident : tactic =>
  `(tactic| (simp [step, $hp:ident, $hth:ident, $hstk:ident, ($hf).f1, ($hf).f2, ($hf).f3, ($hf).f4, ($hf).f5, ($hf).f6]
             repeat' split
             all_goals simp_all [frameOut, frameLive, frameWriter, frameOnce, frameReading, isSub]))

macro "data_simp" : tactic =>
  `(tactic| simp_all (config := { contextual := true }) [isSub, frameOut, frameLive, frameWriter, frameOnce,
      frameReading, frameAdmin, safeAt, frameS])

macro "leaf2" _s:term : tactic => `(tactic| first | assumption | (exfalso; data_simp))

macro "step_all2" hf:ident hp:ident hth:ident hstk:ident s:term : tactic =>
  `(tactic| (simp [step, $hp:ident, $hth:ident, $hstk:ident, ($hf).f1, ($hf).f2, ($hf).f3, ($hf).f4, ($hf).f5, ($hf).f6]
             repeat' split
             all_goals leaf2 $s))

macro "step_all2'" hf:ident hp:ident hth:ident hstk:ident hk:ident : tactic =>
  `(tactic| (simp [step, $hp:ident, $hth:ident, $hstk:ident, $hk:ident, ($hf).f1, ($hf).f2, ($hf).f3, ($hf).f4, ($hf).f5, ($hf).f6]
             repeat' split
             all_goals leaf2 0))

end Mercure.Sys.Progress

#print axioms Mercure.Sys.Progress.no_deadlock_of_no_panic
#print axioms Mercure.Sys.Progress.no_deadlock

import Mercure.Model.Selector
/-
  Lemmas for C11: what the cache key has to satisfy (`KeyOK`; /repo's key `repoKeySegs` does) and the weak-cache
  argument (`Store.Inv`: whatever is stored under a key is right for it).
-/
namespace Mercure

/-! ### what the key has to satisfy -/

/-- The key expression is usable when hits are validated against the selector: for a fixed
    selector it is injective in the topic, and it is never equal to a "t_" key. -/
structure KeyOK (segs : List Seg) : Prop where
  inj_topic : ∀ s t₁ t₂, mkKey segs s t₁ = mkKey segs s t₂ → t₁ = t₂
  ne_t : ∀ s t s', mkKey segs s t ≠ tKey s'

/-- The key shape of /repo: "m_" ++ sel ++ "_" ++ topic — ambiguous in the pair, but injective in
    the topic once the selector is fixed, which is what the validated hit needs. -/
def repoKeySegs : List Seg := [.lit ['m', '_'], .sel, .lit ['_'], .topic]

theorem mkKey_repo (sel topic : Str) :
    mkKey repoKeySegs sel topic = 'm' :: '_' :: (sel ++ '_' :: topic) := by
  simp [mkKey, repoKeySegs, Seg.render]

theorem repoKey_ok : KeyOK repoKeySegs := by
  refine ⟨?_, ?_⟩
  · intro s t₁ t₂ h
    rw [mkKey_repo, mkKey_repo] at h
    simpa using h
  · intro s t s'
    rw [mkKey_repo]; simp [tKey]

theorem tKey_inj {a b : Str} (h : tKey a = tKey b) : a = b := by simpa [tKey] using h

/-! ### the length-prefixed key "m_" ++ dec(len sel) ++ "_" ++ sel ++ "_" ++ topic

Not /repo's key (that is `repoKeySegs` above) but the other shape `cmd/extract` recognises: injective in the pair,
so `C11.repo_key_ok` accepts it as well should the code adopt it. -/

def goodKeySegs : List Seg := [.lit ['m', '_'], .lenSel, .lit ['_'], .sel, .lit ['_'], .topic]

theorem utf8Len_cons (c : Char) (s : Str) : utf8Len (c :: s) = c.utf8Size + utf8Len s := by
  simp [utf8Len]

theorem prefix_eq_of_utf8Len_eq : ∀ (l₁ l₂ x y : Str),
    l₁ ++ x = l₂ ++ y → utf8Len l₁ = utf8Len l₂ → l₁ = l₂ ∧ x = y
  | [], [], x, y, h, _ => ⟨rfl, by simpa using h⟩
  | [], c :: l₂, _, _, _, hl => by
    have := c.utf8Size_pos
    simp [utf8Len] at hl; omega
  | c :: l₁, [], _, _, _, hl => by
    have := c.utf8Size_pos
    simp [utf8Len] at hl; omega
  | a :: l₁, b :: l₂, x, y, h, hl => by
    simp only [List.cons_append, List.cons.injEq] at h
    obtain ⟨hab, ht⟩ := h
    subst hab
    rw [utf8Len_cons, utf8Len_cons] at hl
    have := prefix_eq_of_utf8Len_eq l₁ l₂ x y ht (by omega)
    exact ⟨by rw [this.1], this.2⟩

theorem append_sep_inj (c : Char) : ∀ (a b x y : Str), c ∉ a → c ∉ b →
    a ++ c :: x = b ++ c :: y → a = b ∧ x = y
  | [], [], x, y, _, _, h => by simpa using h
  | [], d :: b, x, y, _, hb, h => by
    simp only [List.nil_append, List.cons_append, List.cons.injEq] at h
    exact absurd (h.1 ▸ List.mem_cons_self) hb
  | d :: a, [], x, y, ha, _, h => by
    simp only [List.nil_append, List.cons_append, List.cons.injEq] at h
    exact absurd (h.1 ▸ List.mem_cons_self) ha
  | d :: a, e :: b, x, y, ha, hb, h => by
    simp only [List.cons_append, List.cons.injEq] at h
    have ha' : c ∉ a := fun hh => ha (List.mem_cons_of_mem _ hh)
    have hb' : c ∉ b := fun hh => hb (List.mem_cons_of_mem _ hh)
    have := append_sep_inj c a b x y ha' hb' h.2
    exact ⟨by rw [h.1, this.1], this.2⟩

theorem natDigits_injective {m n : Nat} (h : natDigits m = natDigits n) : m = n := by
  have h1 := @Nat.ofDigitChars_ten_toDigits m
  have h2 := @Nat.ofDigitChars_ten_toDigits n
  unfold natDigits at h
  rw [h] at h1
  omega

theorem mkKey_good (sel topic : Str) :
    mkKey goodKeySegs sel topic = 'm' :: '_' :: (natDigits (utf8Len sel) ++ '_' :: (sel ++ '_' :: topic)) := by
  simp [mkKey, goodKeySegs, Seg.render]

theorem goodKey_injective {s₁ t₁ s₂ t₂ : Str}
    (h : mkKey goodKeySegs s₁ t₁ = mkKey goodKeySegs s₂ t₂) : s₁ = s₂ ∧ t₁ = t₂ := by
  rw [mkKey_good, mkKey_good] at h
  simp only [List.cons.injEq, true_and] at h
  have hd := append_sep_inj '_' _ _ _ _ Nat.underscore_not_in_toDigits Nat.underscore_not_in_toDigits h
  have hn := natDigits_injective hd.1
  have := prefix_eq_of_utf8Len_eq s₁ s₂ _ _ hd.2 hn
  exact ⟨this.1, by simpa using this.2⟩

theorem goodKey_ne_tKey (s t s' : Str) : mkKey goodKeySegs s t ≠ tKey s' := by
  rw [mkKey_good]; simp [tKey]

theorem goodKey_ok : KeyOK goodKeySegs := ⟨fun _ _ _ h => (goodKey_injective h).2, goodKey_ne_tKey⟩

/-! ### the weak-cache argument -/

/-- An entry is right for its key: an answer stored under an "m_" key is the uncached answer for SOME decomposition of
    the key into selector and topic, the one whose selector it records (the key of /repo is ambiguous; a hit is
    validated against that selector); a regexp stored under a "t_" key is the selector's own. -/
def EntryOK (T : TemplateOracle) (segs : List Seg) (k : Str) (v : CVal) : Prop :=
  (∃ sel topic, k = mkKey segs sel topic ∧ v = .b sel (matchUncached T topic sel)) ∨
  (∃ sel, k = tKey sel ∧ v = .re sel ∧ T.valid sel = true ∧ containsChar sel '{' = true)

/-- Every entry is right for its key. Nothing is said of which entries are there or in what order: eviction and the
    LRU order cannot break it (the "weak" in weak cache). -/
def Store.Inv (T : TemplateOracle) (segs : List Seg) (st : Store) : Prop :=
  ∀ sh ∈ st.shards, ∀ e ∈ sh, EntryOK T segs e.1 e.2

theorem Shard.get_spec {s : Shard} {k : Str} {r : Option CVal} {s' : Shard} (h : s.get k = (r, s')) :
    (∀ v, r = some v → (k, v) ∈ s) ∧ ∀ e ∈ s', e ∈ s := by
  unfold Shard.get at h
  split at h
  · rename_i e he
    simp only [Prod.mk.injEq] at h
    obtain ⟨rfl, rfl⟩ := h
    have hm := List.mem_of_find?_eq_some he
    have hk : e.1 = k := by simpa using List.find?_some he
    refine ⟨fun v hv => ?_, fun x hx => ?_⟩
    · cases hv; exact hk ▸ hm
    · rcases List.mem_cons.1 hx with rfl | hx
      · exact hm
      · exact (List.mem_filter.1 hx).1
  · simp only [Prod.mk.injEq] at h
    obtain ⟨rfl, rfl⟩ := h
    exact ⟨nofun, fun _ hx => hx⟩

theorem Shard.add_sub (cap : Nat) (s : Shard) (k : Str) (v : CVal) :
    ∀ e ∈ s.add cap k v, e = (k, v) ∨ e ∈ s := by
  intro e he
  have he' : e ∈ (k, v) :: s.filter (·.1 != k) := by
    unfold Shard.add at he
    simp only at he
    split at he
    · exact List.dropLast_subset _ he
    · exact he
  exact (List.mem_cons.1 he').imp_right fun h => (List.mem_filter.1 h).1

theorem Store.get_spec {T : TemplateOracle} {segs : List Seg} {st : Store} {k : Str}
    {r : Option CVal} {st' : Store} (hinv : st.Inv T segs) (h : st.get k = (r, st')) :
    st'.Inv T segs ∧ (∀ v, r = some v → EntryOK T segs k v) := by
  unfold Store.get at h
  simp only at h
  split at h
  · simp only [Prod.mk.injEq] at h
    obtain ⟨rfl, rfl⟩ := h
    exact ⟨hinv, by simp⟩
  · rename_i sh hsh
    have hshm : sh ∈ st.shards := List.mem_of_getElem? hsh
    generalize hg : sh.get k = g at h
    obtain ⟨r0, sh'⟩ := g
    simp only [Prod.mk.injEq] at h
    obtain ⟨rfl, rfl⟩ := h
    refine ⟨?_, ?_⟩
    · intro s hs e he
      rcases List.mem_or_eq_of_mem_set hs with hs | rfl
      · exact hinv s hs e he
      · exact hinv sh hshm e ((Shard.get_spec hg).2 e he)
    · exact fun v hv => hinv sh hshm _ ((Shard.get_spec hg).1 v hv)

theorem Store.set_spec {T : TemplateOracle} {segs : List Seg} {st : Store} {k : Str} {v : CVal}
    (hinv : st.Inv T segs) (hv : EntryOK T segs k v) :
    (st.set k v).Inv T segs := by
  unfold Store.set
  simp only
  split
  · exact hinv
  · rename_i sh hsh
    have hshm : sh ∈ st.shards := List.mem_of_getElem? hsh
    intro s hs e he
    rcases List.mem_or_eq_of_mem_set hs with hs | rfl
    · exact hinv s hs e he
    · rcases Shard.add_sub _ _ _ _ e he with rfl | he
      · exact hv
      · exact hinv sh hshm e he

end Mercure

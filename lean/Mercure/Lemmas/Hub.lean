import Mercure.Model.Hub
import Mercure.Lemmas.SubList
import Mercure.Lemmas.Auth
/-
  Lemmas about histories of the hub model (C01, C06, C07, C08, C15, C20).
-/
namespace Mercure

/-! ## Connections -/

/-- The part of a connection that neither the fan-out, the replay nor the handler loop touches and that the events and the
    API read: what `HubEvents.Abs` keeps of it. -/
structure CoreC where
  label : Nat
  sid : Str
  sels : List Str
  epoch : Nat
  done : Bool
  shutdownOpen : Bool

def Conn.core (c : Conn) : CoreC :=
  { label := c.label, sid := c.sid, sels := c.sels, epoch := c.epoch, done := c.done,
    shutdownOpen := c.shutdownOpen }

theorem Conn.enqueue_core (cap : Nat) (c : Conn) (u : Update) : (c.enqueue cap u).1.core = c.core := by
  unfold Conn.enqueue
  split
  · rfl
  · split <;> rfl

theorem Conn.pump_frame (c : Conn) :
    c.pump.core = c.core ∧ c.pump.closedOut = c.closedOut ∧ c.pump.enq = c.enq ∧ c.pump.allowed = c.allowed := by
  simp only [Conn.pump]
  repeat' split
  all_goals exact ⟨rfl, rfl, rfl, rfl⟩

theorem Conn.pump_core (c : Conn) : c.pump.core = c.core := c.pump_frame.1

/-- `replay` is a sequence of matching `enqueue`s: whatever holds of `c` and is kept by one holds of the result. -/
theorem Conn.replay_induct {M : Str → Str → Bool} {Q : Conn → Prop} (cap : Nat)
    (hq : ∀ c u, Q c → c.matches M u = true → Q (c.enqueue cap u).1)
    (ups : List Update) (c : Conn) (h : Q c) : Q (c.replay M cap ups) := by
  induction ups generalizing c with
  | nil => exact h
  | cons u us ih =>
    unfold Conn.replay
    split
    · rename_i hm
      have hl := hq c u h hm
      split <;> rename_i c' he <;> rw [he] at hl
      · exact ih _ hl
      · exact hl
    · exact ih c h

theorem Conn.replay_core (M : Str → Str → Bool) (cap : Nat) (ups : List Update) (c : Conn) :
    (c.replay M cap ups).core = c.core :=
  Conn.replay_induct (Q := fun c' => c'.core = c.core) cap
    (fun c' u h _ => (c'.enqueue_core cap u).trans h) ups c rfl

theorem map_core {f : Conn → Conn} (hf : ∀ c, (f c).core = c.core) (conns : List Conn) :
    (conns.map f).map Conn.core = conns.map Conn.core := by
  rw [List.map_map]; apply List.map_congr_left; intro c _; exact hf c

theorem updConn_core {f : Conn → Conn} (hf : ∀ c, (f c).core = c.core) (conns : List Conn) (l : Nat) :
    (updConn conns l f).map Conn.core = conns.map Conn.core := by
  unfold updConn
  apply map_core
  intro c; split
  · exact hf c
  · rfl

theorem fanout_core (M : Str → Str → Bool) (idx : List Nat) (cap : Nat) (u : Update) (conns : List Conn) :
    (conns.map (fun c => if idx.contains c.label && c.matches M u then (c.enqueue cap u).1 else c)).map Conn.core
      = conns.map Conn.core := by
  apply map_core
  intro c; split
  · exact Conn.enqueue_core _ _ _
  · rfl

def labels (st : HubSt) : List Nat := st.conns.map (·.label)

def undone (conns : List Conn) : Nat := (conns.filter (fun c => !c.done)).length

theorem labels_of_core {s t : HubSt} (h : s.conns.map Conn.core = t.conns.map Conn.core) : labels s = labels t := by
  have e : ∀ l : List Conn, l.map (·.label) = (l.map Conn.core).map (·.label) := fun l => by
    rw [List.map_map]; rfl
  unfold labels
  rw [e, e, h]

theorem undone_of_core {l l' : List Conn} (h : l.map Conn.core = l'.map Conn.core) : undone l = undone l' := by
  have e : ∀ l : List Conn, undone l = ((l.map Conn.core).filter (fun c => !c.done)).length := fun l => by
    unfold undone; rw [List.filter_map, List.length_map]; rfl
  rw [e, e, h]

theorem updConn_length (conns : List Conn) (l : Nat) (f : Conn → Conn) :
    (updConn conns l f).length = conns.length := by
  unfold updConn; simp only [List.length_map]

theorem all_map_conns {Q : Conn → Prop} {f : Conn → Conn} {l : List Conn} (hf : ∀ c, Q c → Q (f c))
    (h : ∀ c ∈ l, Q c) : ∀ c ∈ l.map f, Q c :=
  List.forall_mem_map.2 fun c hc => hf c (h c hc)

theorem all_updConn {Q : Conn → Prop} {f : Conn → Conn} {l : List Conn} (lab : Nat) (hf : ∀ c, Q c → Q (f c))
    (h : ∀ c ∈ l, Q c) : ∀ c ∈ updConn l lab f, Q c := by
  unfold updConn
  apply all_map_conns _ h
  intro c hc
  split
  · exact hf c hc
  · exact hc

/-! ### per-connection invariant (C01) -/

structure Conn.Ok (M : Str → Str → Bool) (tokS : Str → Option Claims) (c : Conn) : Prop where
  enq : ∀ u ∈ c.enq, matchTopics M c.sels c.allowed u.topics u.priv = true
  wr : ∀ u, (u ∈ c.written ∨ u ∈ c.out ∨ c.inflight = some u) → u ∈ c.enq
  tok : c.allowed = [] ∨ ∃ s cl, tokS s = some cl ∧ c.allowed = cl.mercure.subscribe.getD []

theorem Conn.enqueue_ok {M : Str → Str → Bool} {tokS : Str → Option Claims} (cap : Nat) (c : Conn) (u : Update)
    (h : c.Ok M tokS) (hm : c.matches M u = true) : (c.enqueue cap u).1.Ok M tokS := by
  unfold Conn.enqueue; split
  · exact h
  · split
    · refine ⟨?_, ?_, h.tok⟩
      · intro v hv
        simp only [List.mem_append, List.mem_singleton] at hv
        rcases hv with hv | rfl
        · exact h.enq v hv
        · exact hm
      · intro v hv
        simp only [List.mem_append, List.mem_singleton] at hv ⊢
        rcases hv with hv | (hv | hv) | hv
        · exact Or.inl (h.wr v (Or.inl hv))
        · exact Or.inl (h.wr v (Or.inr (Or.inl hv)))
        · exact Or.inr hv
        · exact Or.inl (h.wr v (Or.inr (Or.inr hv)))
    · exact ⟨h.enq, h.wr, h.tok⟩

/-- Everything a connection holds on its way to the client, in the order it will be written. -/
def Conn.held (c : Conn) : List Update := c.written ++ (c.inflight.toList ++ c.out)

theorem Conn.mem_held {c : Conn} {u : Update} :
    u ∈ c.held ↔ (u ∈ c.written ∨ u ∈ c.out ∨ c.inflight = some u) := by
  unfold Conn.held
  cases c.inflight <;> simp [or_comm, eq_comm]

/-- The handler loop moves what is held towards `written`, in order; a failing write drops one update. -/
theorem Conn.pump_held (c : Conn) : c.pump.held.Sublist c.held := by
  obtain ⟨label, sid, sels, allowed, payload, reqLEID, respLEID, out, inflight, closedOut, stalled, failNext,
    written, exited, done, joinedAt, replayed, shutdownOpen, epoch, enq⟩ := c
  unfold Conn.pump Conn.held
  cases exited
  case true => exact List.Sublist.refl _
  cases stalled
  case true =>
    -- blocked in a write: at most the head of the buffer moves in flight
    cases inflight <;> cases out <;> simp only [Bool.false_eq_true, if_false, if_true]
    · split <;> exact List.Sublist.refl _
    all_goals exact List.Sublist.refl _
  case false =>
    cases inflight with
    | none =>
      by_cases hf : (failNext && out != []) = true
      · -- the write fails: the first buffered update is lost
        simp only [Bool.false_eq_true, if_false, if_true, List.nil_append, hf]
        exact (List.drop_sublist 1 out).append_left written
      · simp only [Bool.false_eq_true, if_false, List.nil_append, hf]
        split <;> simp
    | some w =>
      by_cases hf : (failNext && [w] ++ out != []) = true
      · -- the write fails: the update in flight is lost
        simp only [Bool.false_eq_true, if_false, if_true, hf]
        exact (List.sublist_cons_self w out).append_left written
      · simp only [Bool.false_eq_true, if_false, hf]
        split <;> simp

theorem Conn.pump_ok {M : Str → Str → Bool} {tokS : Str → Option Claims} (c : Conn) (h : c.Ok M tokS) :
    c.pump.Ok M tokS := by
  obtain ⟨hcore, _, henq, hal⟩ := c.pump_frame
  have hsels : c.pump.sels = c.sels := congrArg CoreC.sels hcore
  refine ⟨by rw [henq, hsels, hal]; exact h.enq, ?_, by rw [hal]; exact h.tok⟩
  intro v hv
  rw [henq]
  exact h.wr v (Conn.mem_held.1 (c.pump_held.subset (Conn.mem_held.2 hv)))

/-! ## The operations, in the form the proofs use -/
section Infra
variable (M : Str → Str → Bool) (tokP tokS : Str → Option Claims)

def HubSt.mark (st : HubSt) (label : Nat) (b : Bool) : HubSt :=
  { st with conns := updConn st.conns label (fun c =>
              { c with closedOut := true, exited := true, done := true, shutdownOpen := b }),
            index := if b then st.index.filter (· != label) else st.index }

def HubSt.decr (st : HubSt) : HubSt :=
  { st with metrics := { st.metrics with gauge := st.metrics.gauge - 1 }, openStreams := st.openStreams - 1 }

theorem shutdown_eq (st : HubSt) (label : Nat) :
    st.shutdown M label =
      match getConn st.conns label with
      | none => st
      | some c =>
        if c.done then st
        else if !st.closed && c.epoch == st.epoch then ((st.mark label true).subscriptionEvents M c false).decr
        else (st.mark label false).decr := by
  unfold HubSt.shutdown
  cases getConn st.conns label with
  | none => rfl
  | some c =>
    by_cases hd : c.done = true
    · simp only [hd, if_true]
    · by_cases hb : (!st.closed && c.epoch == st.epoch) = true
      · simp only [hd, hb, if_true, Bool.false_eq_true, if_false]; rfl
      · simp only [hd, hb, Bool.false_eq_true, if_false]; rfl

theorem dispatch_spec (st : HubSt) (u : Update) :
    (st.closed = true ∧ st.dispatch M u = (st, none)) ∨
    (st.closed = false ∧ ∃ (u' : Update) (seq' uuid' : Nat) (db' : List (Nat × Update)),
      u'.topics = u.topics ∧ u'.priv = u.priv ∧ st.uuid ≤ uuid' ∧
      (match st.kind with
        | .bolt => db' = retain st.size (st.seq + 1) (st.db ++ [(st.seq + 1, u')]) ∧ seq' = st.seq + 1
        | .local => db' = st.db ∧ seq' = st.seq) ∧
      st.dispatch M u =
        ({ st with uuid := uuid', seq := seq', db := db',
                   conns := st.conns.map (fun c =>
                     if st.index.contains c.label && c.matches M u' then (c.enqueue st.cap u').1 else c),
                   lastEventID := u'.id, accepted := st.accepted ++ [u'] }, some u'.id)) := by
  unfold HubSt.dispatch
  cases hc : st.closed
  · right
    refine ⟨rfl, ?_⟩
    simp only [Bool.false_eq_true, if_false]
    by_cases hid : (u.id == []) = true
    · simp only [hid, if_true]
      cases hk : st.kind
      · exact ⟨{ u with id := uuidOf st.uuid }, st.seq, st.uuid + 1, st.db, rfl, rfl, Nat.le_succ _, ⟨rfl, rfl⟩, rfl⟩
      · exact ⟨{ u with id := uuidOf st.uuid }, st.seq + 1, st.uuid + 1, _, rfl, rfl, Nat.le_succ _, ⟨rfl, rfl⟩, rfl⟩
    · simp only [hid, Bool.false_eq_true, if_false]
      cases hk : st.kind
      · exact ⟨u, st.seq, st.uuid, st.db, rfl, rfl, Nat.le_refl _, ⟨rfl, rfl⟩, by simp only [hk, hc]⟩
      · exact ⟨u, st.seq + 1, st.uuid, _, rfl, rfl, Nat.le_refl _, ⟨rfl, rfl⟩, by simp only [hc]⟩
  · left; simp

theorem dispatch_decr (st : HubSt) (u : Update) :
    st.decr.dispatch M u = ((st.dispatch M u).1.decr, (st.dispatch M u).2) := by
  obtain ⟨cfg, kind, size, cap, db, seq, leid, conns, index, closed, epoch, uuid, metrics, accepted,
    events, okPubs, openStreams⟩ := st
  unfold HubSt.dispatch HubSt.decr
  cases closed
  · simp only [Bool.false_eq_true, if_false]
    by_cases hid : (u.id == []) = true
    · simp only [hid, if_true]
      cases kind <;> rfl
    · simp only [hid, Bool.false_eq_true, if_false]
      cases kind <;> rfl
  · rfl

def evStep (c : Conn) (a : Bool) (st : HubSt) (s : Subscription) : HubSt :=
  match st.dispatch M (subscriptionUpdate s) with
  | (st', some _) => { st' with events := st'.events ++ [(c.label, s.topic, a)] }
  | (st', none) => st'

variable {M}

theorem subscriptionEvents_eq (st : HubSt) (c : Conn) (a : Bool) :
    st.subscriptionEvents M c a =
      if !st.cfg.subscriptions then st else (subDocsOf st.cfg M c [] a).foldl (evStep M c a) st := rfl

theorem evStep_decr (c : Conn) (a : Bool) (st : HubSt) (s : Subscription) :
    evStep M c a st.decr s = (evStep M c a st s).decr := by
  unfold evStep
  rw [dispatch_decr]
  rcases hd : st.dispatch M (subscriptionUpdate s) with ⟨st', _ | id⟩ <;> rfl

theorem subEvents_decr (st : HubSt) (c : Conn) (a : Bool) :
    st.decr.subscriptionEvents M c a = (st.subscriptionEvents M c a).decr := by
  rw [subscriptionEvents_eq, subscriptionEvents_eq]
  show (if !st.cfg.subscriptions then st.decr else (subDocsOf st.cfg M c [] a).foldl (evStep M c a) st.decr) = _
  split
  · rfl
  · exact List.foldl_hom HubSt.decr (evStep_decr c a)

/-! ### generic preservation principle -/

variable (M) in
/-- The four steps `subscriptionEvents`, `shutdown` and `settle` are folded from. -/
structure PresCore (P : HubSt → Prop) : Prop where
  dispatch : ∀ st u, P st → P (st.dispatch M u).1
  events : ∀ (st : HubSt) ev, P st → P { st with events := ev }
  pump : ∀ (st : HubSt), P st → P { st with conns := st.conns.map Conn.pump }
  shut : ∀ (st : HubSt) l c b, getConn st.conns l = some c → c.done = false → P st → P (st.mark l b).decr

theorem PresCore.subEvents {P : HubSt → Prop} (hP : PresCore M P) (st : HubSt) (c : Conn) (a : Bool)
    (h : P st) : P (st.subscriptionEvents M c a) := by
  rw [subscriptionEvents_eq]
  split
  · exact h
  · refine List.foldlRecOn _ _ h (fun st h s _ => ?_)
    unfold evStep
    have hd := hP.dispatch st (subscriptionUpdate s) h
    rcases hd' : st.dispatch M (subscriptionUpdate s) with ⟨st', _ | id⟩ <;> rw [hd'] at hd
    · exact hd
    · exact hP.events _ _ hd

theorem PresCore.shutdown {P : HubSt → Prop} (hP : PresCore M P) (st : HubSt) (l : Nat)
    (h : P st) : P (st.shutdown M l) := by
  rw [shutdown_eq]
  split
  · exact h
  · rename_i c hg
    split
    · exact h
    · rename_i hd
      have hs := fun b => hP.shut st l c b hg (by simpa using hd) h
      split
      · rw [← subEvents_decr]; exact hP.subEvents _ _ _ (hs true)
      · exact hs false

theorem PresCore.settle {P : HubSt → Prop} (hP : PresCore M P) (fuel : Nat) (st : HubSt)
    (h : P st) : P (st.settle M fuel) := by
  induction fuel generalizing st with
  | zero => exact h
  | succ n ih =>
    unfold HubSt.settle
    have h1 := hP.pump st h
    simp only []
    split
    · split
      · exact h1
      · exact ih _ h1
    · exact ih _ (List.foldlRecOn _ _ h1 fun st h l _ => hP.shutdown st l h)

/-! ### frame facts -/

/-- What neither a dispatch, the handler loop nor a shutdown changes. -/
theorem presCore_static (s0 : HubSt) :
    PresCore M (fun st => st.cfg = s0.cfg ∧ st.kind = s0.kind ∧ st.closed = s0.closed ∧ st.epoch = s0.epoch) where
  dispatch st u h := by
    rcases dispatch_spec M st u with ⟨_, h2⟩ | ⟨_, u', s', uu', db', _, _, _, _, h2⟩ <;> rw [h2] <;> exact h
  events st ev h := h
  pump st h := h
  shut st l c b' _ _ h := by
    unfold HubSt.mark HubSt.decr
    cases b' <;> exact h

theorem subEvents_static (st : HubSt) (c : Conn) (a : Bool) :
    (st.subscriptionEvents M c a).cfg = st.cfg ∧ (st.subscriptionEvents M c a).kind = st.kind ∧
    (st.subscriptionEvents M c a).closed = st.closed ∧ (st.subscriptionEvents M c a).epoch = st.epoch :=
  (presCore_static st).subEvents st c a ⟨rfl, rfl, rfl, rfl⟩

theorem subEvents_closed (st : HubSt) (c : Conn) (a : Bool) :
    (st.subscriptionEvents M c a).closed = st.closed := (subEvents_static st c a).2.2.1

theorem settle_closed (st : HubSt) (n : Nat) : (st.settle M n).closed = st.closed :=
  ((presCore_static st).settle n st ⟨rfl, rfl, rfl, rfl⟩).2.2.1

/-- On a closed hub nothing is announced: the transport refuses every dispatch. -/
theorem subEvents_of_closed (st : HubSt) (c : Conn) (a : Bool) (h : st.closed = true) :
    st.subscriptionEvents M c a = st := by
  rw [subscriptionEvents_eq]
  split
  · rfl
  · refine List.foldlRecOn (motive := fun s => s = st) _ _ rfl (fun s hs d _ => ?_)
    unfold evStep
    rcases dispatch_spec M s (subscriptionUpdate d) with ⟨_, h2⟩ | ⟨h1, _⟩
    · rw [h2]; exact hs
    · rw [hs, h] at h1; cases h1

theorem presCore_labels (L : List Nat) : PresCore M (fun st => labels st = L) where
  dispatch st u h := by
    rcases dispatch_spec M st u with ⟨_, h2⟩ | ⟨_, u', s', uu', db', _, _, _, _, h2⟩ <;> rw [h2]
    · exact h
    · exact (labels_of_core (fanout_core M _ _ _ _)).trans h
  events st ev h := h
  pump st h := (labels_of_core (map_core Conn.pump_core _)).trans h
  shut st l c b' _ _ h := by
    rw [← h]
    unfold HubSt.mark HubSt.decr labels updConn
    rw [List.map_map]
    apply List.map_congr_left
    intro c _
    show (if _ then _ else c).label = c.label
    split <;> rfl

theorem subEvents_labels (st : HubSt) (c : Conn) (a : Bool) :
    labels (st.subscriptionEvents M c a) = labels st :=
  (presCore_labels (labels st)).subEvents st c a rfl

/-! ### `connect` and `connectFailing` -/

/-- The record both build for an authorised request. -/
def Conn.fresh (st : HubSt) (label : Nat) (r : SubReq) (c : Option Claims) (priv : List Str) (leid : Str) : Conn :=
  { label := label, sid := uuidOf st.uuid, sels := r.topics, allowed := priv,
    payload := (match c with | some c => c.mercure.payload | none => []),
    reqLEID := leid, respLEID := none, epoch := st.epoch }

/-- The response id and the connection record after the history negotiation and replay. -/
def mkConn (M : Str → Str → Bool) (st : HubSt) (c0 : Conn) (leid : Str) : Option Str × Conn :=
  if leid == [] then (none, c0)
  else match st.kind with
    | .local => (some earliest, c0)
    | .bolt => (some (negotiate st.db leid).1,
                { c0.replay M st.cap (negotiate st.db leid).2 with replayed := (negotiate st.db leid).2 })

theorem mkConn_resp (M : Str → Str → Bool) (st : HubSt) (c0 : Conn) (leid : Str) :
    (mkConn M st c0 leid).1.isSome = (leid != []) ∧
    (st.kind = .local → ∀ x, (mkConn M st c0 leid).1 = some x → x = earliest) := by
  unfold mkConn
  by_cases hl : leid = []
  · simp [hl]
  · cases hk : st.kind <;> simp [hl]

def HubSt.addConn (st : HubSt) (label : Nat) (resp : Option Str) (conn : Conn) : HubSt :=
  { st with conns := st.conns ++ [{ conn with respLEID := resp, joinedAt := st.accepted.length }],
            index := st.index ++ [label],
            metrics := { st.metrics with total := st.metrics.total + 1, gauge := st.metrics.gauge + 1 },
            openStreams := st.openStreams + 1 }

structure IsConn0 (c0 : Conn) (label : Nat) (priv : List Str) : Prop where
  label : c0.label = label
  allowed : c0.allowed = priv
  done : c0.done = false
  enq : c0.enq = []
  written : c0.written = []
  out : c0.out = []
  inflight : c0.inflight = none

theorem connect_refused (st : HubSt) (label : Nat) (r : SubReq) (s : Nat) (b : Str)
    (h : subscribeDecision st.cfg tokS r = .refused s b) :
    st.connect M tokS label r = ({ st with uuid := st.uuid + 1 }, { status := s, body := b, respLEID := none }) := by
  unfold HubSt.connect
  simp only [h]

theorem connect_accepted (st : HubSt) (label : Nat) (r : SubReq) (c : Option Claims) (priv : List Str) (leid : Str)
    (h : subscribeDecision st.cfg tokS r = .accepted c priv leid) :
    st.connect M tokS label r =
      (let c0 := Conn.fresh st label r c priv leid
       let st2 := HubSt.subscriptionEvents M { st with uuid := st.uuid + 1 } c0 true
       let st3 := st2.addConn label (mkConn M st2 c0 leid).1 (mkConn M st2 c0 leid).2
       if st2.closed then
         (st2.subscriptionEvents M c0 false, { status := 503, body := "Service Unavailable\n".toList, respLEID := none })
       else (st3.settle M (st3.conns.length + 2), { status := 200, body := [], respLEID := (mkConn M st2 c0 leid).1 })) := by
  unfold HubSt.connect
  simp only [h]
  unfold mkConn HubSt.addConn Conn.fresh
  split
  · rfl
  · by_cases hl : (leid == []) = true
    · simp only [hl, if_true]
    · simp only [hl, Bool.false_eq_true, if_false]
      split <;> rfl

theorem connectFailing_refused (st : HubSt) (label : Nat) (r : SubReq) (s : Nat) (b : Str)
    (h : subscribeDecision st.cfg tokS r = .refused s b) :
    st.connectFailing M tokS label r =
      ({ st with uuid := st.uuid + 1 }, { status := s, body := b, respLEID := none }) := by
  unfold HubSt.connectFailing
  simp only [h]

/-- An authorised failing registration: the two rounds of subscription events, then the ghost entry,
    then every handler runs to quiescence. -/
theorem connectFailing_accepted (st : HubSt) (label : Nat) (r : SubReq) (c : Option Claims) (priv : List Str)
    (leid : Str) (h : subscribeDecision st.cfg tokS r = .accepted c priv leid) :
    st.connectFailing M tokS label r =
      (let c0 := Conn.fresh st label r c priv leid
       let st2 := HubSt.subscriptionEvents M (HubSt.subscriptionEvents M { st with uuid := st.uuid + 1 } c0 true) c0 false
       let st3 : HubSt := { st2 with failed := st2.failed ++ [(label, r.topics, !st.closed)] }
       (st3.settle M (st3.conns.length + 2),
        { status := 503, body := "Service Unavailable\n".toList, respLEID := none })) := by
  unfold HubSt.connectFailing
  simp only [h]
  rfl

/-! ### the principle at the level of operations -/

/-- What a connection satisfies when it is registered. -/
structure NewConn (M : Str → Str → Bool) (tokS : Str → Option Claims) (label : Nat) (conn : Conn) : Prop where
  label : conn.label = label
  done : conn.done = false
  ok : conn.Ok M tokS

/-- The primitive steps the operations are made of, beyond those of `PresCore`: drawing a uuid, counting a publication,
    `tweak` (one schema for `clientClose`, `stall` and `failNext`: flags of one connection), the two halves of `close`
    and `restart` (which recomputes `lastEventID` and, for the local transport, the history: hence any `leid`, `db'`), and
    the ghost list. A predicate kept by all of them is kept by every operation but `connect`, which adds a connection
    (`Pres.connect`'s premise). -/
structure Pres (M : Str → Str → Bool) (P : HubSt → Prop) : Prop extends PresCore M P where
  uuid : ∀ st : HubSt, P st → P { st with uuid := st.uuid + 1 }
  pubOk : ∀ st : HubSt, P st →
    P { st with metrics := { st.metrics with updates := st.metrics.updates + 1 }, okPubs := st.okPubs + 1 }
  tweak : ∀ (st : HubSt) (l : Nat) (s fn : Conn → Bool) (clr : Bool), P st →
    P { st with conns := updConn st.conns l (fun c =>
          { c with stalled := s c, failNext := fn c, inflight := if clr then none else c.inflight }) }
  closeMark : ∀ st : HubSt, st.closed = false → P st →
    P { st with closed := true,
                conns := st.conns.map (fun (c : Conn) =>
                  if st.index.contains c.label then { c with closedOut := true } else c) }
  reopen : ∀ (st : HubSt) (leid : Str) (db' : List (Nat × Update)), st.closed = true →
    (st.kind = .bolt → db' = st.db) → P st →
    P { st with closed := false, index := [], epoch := st.epoch + 1, db := db', lastEventID := leid }
  failed : ∀ (st : HubSt) (fl : List (Nat × List Str × Bool)), P st → P { st with failed := fl }

variable {P : HubSt → Prop}

theorem Pres.publish (hP : Pres M P) (st : HubSt) (r : PubReq) (h : P st) : P (st.publish M tokP r).1 := by
  unfold HubSt.publish
  split
  · exact h
  · rename_i u _
    have hd := hP.dispatch st u h
    split <;> rename_i hd' <;> rw [hd'] at hd
    · exact hP.settle _ _ (hP.pubOk _ hd)
    · exact hd

theorem Pres.clientClose (hP : Pres M P) (st : HubSt) (l : Nat) (h : P st) : P (st.clientClose M l) := by
  unfold HubSt.clientClose
  split
  · exact h
  · split
    · exact h
    · exact hP.settle _ _ (hP.shutdown _ _ (hP.tweak st l (fun _ => false) Conn.failNext true h))

theorem Pres.close (hP : Pres M P) (st : HubSt) (h : P st) : P (st.close M) := by
  unfold HubSt.close
  split
  · exact h
  · rename_i hc
    exact hP.settle _ _ (hP.closeMark st (by simpa using hc) h)

theorem mkConn_new (st : HubSt) (c0 : Conn) (leid : Str) (label : Nat) (priv : List Str)
    (h0 : IsConn0 c0 label priv)
    (htok : priv = [] ∨ ∃ s cl, tokS s = some cl ∧ priv = cl.mercure.subscribe.getD []) :
    NewConn M tokS label (mkConn M st c0 leid).2 := by
  have hn : NewConn M tokS label c0 := by
    refine ⟨h0.label, h0.done, ?_, ?_, ?_⟩
    · intro u hu; rw [h0.enq] at hu; cases hu
    · intro u hu
      rw [h0.written, h0.out, h0.inflight] at hu
      simp at hu
    · rw [h0.allowed]; exact htok
  unfold mkConn
  split
  · exact hn
  · split
    · exact hn
    · -- the replay is a sequence of matching `enqueue`s, which keep all three
      have := Conn.replay_induct (Q := NewConn M tokS label) st.cap (fun c u h hm =>
        ⟨(congrArg CoreC.label (c.enqueue_core _ u)).trans h.label,
         (congrArg CoreC.done (c.enqueue_core _ u)).trans h.done, Conn.enqueue_ok _ c u h.ok hm⟩)
        (negotiate st.db leid).2 c0 hn
      exact ⟨this.label, this.done, this.ok.enq, this.ok.wr, this.ok.tok⟩

variable {tokS}

theorem Pres.connect (hP : Pres M P) (st : HubSt) (label : Nat) (r : SubReq)
    (hconn : ∀ (st' : HubSt) resp conn, labels st' = labels st → st'.closed = false →
      NewConn M tokS label conn → P st' → P (st'.addConn label resp conn))
    (h : P st) : P (st.connect M tokS label r).1 := by
  cases hd : subscribeDecision st.cfg tokS r with
  | refused s b => rw [connect_refused tokS st label r s b hd]; exact hP.uuid st h
  | accepted c priv leid =>
    rw [connect_accepted tokS st label r c priv leid hd]
    have h1 := hP.subEvents _ (Conn.fresh st label r c priv leid) true (hP.uuid st h)
    simp only []
    split
    · exact hP.subEvents _ _ false h1
    · rename_i hc
      refine hP.settle _ _ (hconn _ _ _ (subEvents_labels _ _ _) (by simpa using hc) ?_ h1)
      exact mkConn_new tokS _ _ leid label priv ⟨rfl, rfl, rfl, rfl, rfl, rfl, rfl⟩ 
        ((subscribeDecision_rights hd).imp (·.2) fun ⟨cl, s, _, hs, hp⟩ => ⟨s, cl, hs, hp⟩)

theorem Pres.connectFailing (hP : Pres M P) (st : HubSt) (label : Nat) (r : SubReq)
    (h : P st) : P (st.connectFailing M tokS label r).1 := by
  cases hd : subscribeDecision st.cfg tokS r with
  | refused s b => rw [connectFailing_refused tokS st label r s b hd]; exact hP.uuid st h
  | accepted c priv leid =>
    rw [connectFailing_accepted tokS st label r c priv leid hd]
    exact hP.settle _ _ (hP.failed _ _ (hP.subEvents _ _ false (hP.subEvents _ _ true (hP.uuid st h))))

theorem close_closed (st : HubSt) : (st.close M).closed = true := by
  unfold HubSt.close
  split
  · assumption
  · rw [settle_closed]

theorem Pres.restart (hP : Pres M P) (st : HubSt) (h : P st) : P (st.restart M) := by
  unfold HubSt.restart
  exact hP.reopen (st.close M) _ _ (close_closed st) (fun hk => by simp only [hk]) (hP.close st h)

theorem Pres.run (hP : Pres M P)
    (hconn : ∀ label (st' : HubSt) resp conn, st'.closed = false → NewConn M tokS label conn → P st' →
      P (st'.addConn label resp conn))
    (ops : List HubOp) (st : HubSt) (h : P st) : P (st.run M tokP tokS ops) := by
  refine List.foldlRecOn _ _ h (fun st h op _ => ?_)
  cases op with
  | publish r => exact hP.publish tokP st r h
  | connect l r => exact hP.connect st l r (fun st' resp conn _ => hconn l st' resp conn) h
  | connectFail l r => exact hP.connectFailing st l r h
  | clientClose l => exact hP.clientClose st l h
  | stall l b => exact hP.settle _ _ (hP.tweak st l (fun _ => b) Conn.failNext false h)
  | failNext l => exact hP.tweak st l Conn.stalled (fun _ => true) false h
  | close => exact hP.close st h
  | restart => exact hP.restart st h
end Infra

/-! ## Invariants of reachable states -/
section Invariants
variable {M : Str → Str → Bool} {tokP tokS : Str → Option Claims}

theorem pres_ok : Pres M (fun st => ∀ c ∈ st.conns, c.Ok M tokS) where
  dispatch st u h := by
    rcases dispatch_spec M st u with ⟨_, h2⟩ | ⟨_, u', s', uu', db', _, _, _, _, h2⟩ <;> rw [h2]
    · exact h
    · apply all_map_conns _ h
      intro c hc
      split
      · rename_i hm
        simp only [Bool.and_eq_true] at hm
        exact Conn.enqueue_ok _ _ _ hc hm.2
      · exact hc
  events st ev h := h
  pump st h := all_map_conns Conn.pump_ok h
  shut st l c b' _ _ h := all_updConn _ (fun c hc => ⟨hc.enq, hc.wr, hc.tok⟩) h
  uuid st h := h
  pubOk st h := h
  tweak st l s fn clr h := by
    apply all_updConn _ _ h
    intro c hc
    refine ⟨hc.enq, ?_, hc.tok⟩
    intro v hv
    apply hc.wr
    cases clr
    · exact hv
    · rcases hv with hv | hv | hv
      · exact Or.inl hv
      · exact Or.inr (Or.inl hv)
      · simp at hv
  closeMark st _ h := by
    apply all_map_conns _ h
    intro c hc
    split
    · exact ⟨hc.enq, hc.wr, hc.tok⟩
    · exact hc
  reopen st leid db' _ _ h := h
  failed st fl h := h

theorem run_ok (ops : List HubOp) (st : HubSt) (h : ∀ c ∈ st.conns, c.Ok M tokS) :
    ∀ c ∈ (st.run M tokP tokS ops).conns, c.Ok M tokS := by
  refine pres_ok.run tokP ?_ ops st h
  intro label st' resp conn _ hn h' c hc
  unfold HubSt.addConn at hc
  simp only [List.mem_append, List.mem_singleton] at hc
  rcases hc with hc | rfl
  · exact h' c hc
  · exact ⟨hn.ok.enq, hn.ok.wr, hn.ok.tok⟩

theorem reach_ok (cfg : HubCfg) (kind : Kind) (size cap : Nat) (ops : List HubOp) :
    ∀ c ∈ (HubSt.reach M tokP tokS cfg kind size cap ops).conns, c.Ok M tokS :=
  run_ok ops _ (fun c hc => by cases hc)

/-! ### C20: metrics -/

def MetricsInv (st : HubSt) : Prop :=
  st.metrics.gauge = st.openStreams ∧ st.metrics.total = st.conns.length ∧ st.metrics.updates = st.okPubs

theorem pres_metrics : Pres M MetricsInv where
  dispatch st u h := by
    rcases dispatch_spec M st u with ⟨_, h2⟩ | ⟨_, u', s', uu', db', _, _, _, _, h2⟩ <;> rw [h2]
    · exact h
    · obtain ⟨h1, h2, h3⟩ := h
      exact ⟨h1, by simpa only [List.length_map] using h2, h3⟩
  events st ev h := h
  pump st h := by
    obtain ⟨h1, h2, h3⟩ := h
    exact ⟨h1, by simpa only [List.length_map] using h2, h3⟩
  shut st l c b' _ _ h := by
    obtain ⟨h1, h2, h3⟩ := h
    unfold HubSt.mark HubSt.decr MetricsInv
    refine ⟨?_, ?_, h3⟩
    · simp only [h1]
    · simpa only [updConn_length] using h2
  uuid st h := h
  pubOk st h := by
    obtain ⟨h1, h2, h3⟩ := h
    exact ⟨h1, h2, by simp only [h3]⟩
  tweak st l s fn clr h := by
    obtain ⟨h1, h2, h3⟩ := h
    exact ⟨h1, by simpa only [updConn_length] using h2, h3⟩
  closeMark st _ h := by
    obtain ⟨h1, h2, h3⟩ := h
    exact ⟨h1, by simpa only [List.length_map] using h2, h3⟩
  reopen st leid db' _ _ h := h
  failed st fl h := h

theorem run_metrics (ops : List HubOp) (st : HubSt) (h : MetricsInv st) :
    MetricsInv (st.run M tokP tokS ops) := by
  refine pres_metrics.run tokP ?_ ops st h
  intro label st' resp conn _ hn ⟨h1, h2, h3⟩
  unfold HubSt.addConn MetricsInv
  refine ⟨?_, ?_, h3⟩
  · simp only [h1]
  · simp only [h2, List.length_append, List.length_singleton]

/-! ### C15: Bolt without retention stores exactly the accepted updates -/

def DbInv (st : HubSt) : Prop :=
  st.db.map (·.2) = st.accepted ∧ st.kind = .bolt ∧ st.size = 0

theorem pres_db : Pres M DbInv where
  dispatch st u h := by
    obtain ⟨h1, hk, hs⟩ := h
    rcases dispatch_spec M st u with ⟨_, h2⟩ | ⟨_, u', s', uu', db', _, _, _, hdb, h2⟩ <;> rw [h2]
    · exact ⟨h1, hk, hs⟩
    · rw [hk] at hdb
      simp only [hs] at hdb
      obtain ⟨hdb, _⟩ := hdb
      refine ⟨?_, hk, hs⟩
      subst hdb
      unfold retain
      simp only [BEq.rfl, Bool.true_or, if_true, List.map_append, List.map_cons, List.map_nil, h1]
  events st ev h := h
  pump st h := h
  shut st l c b' _ _ h := h
  uuid st h := h
  pubOk st h := h
  tweak st l s fn clr h := h
  closeMark st _ h := h
  reopen st leid db' _ hdb h := by
    obtain ⟨h1, hk, hs⟩ := h
    refine ⟨?_, hk, hs⟩
    simp only [hdb hk]
    exact h1
  failed st fl h := h

theorem run_db (ops : List HubOp) (st : HubSt) (h : DbInv st) : DbInv (st.run M tokP tokS ops) :=
  pres_db.run tokP (fun _ _ _ _ _ _ h' => h') ops st h

variable (M tokP tokS) in
theorem reach_db_accepted (cfg : HubCfg) (cap : Nat) (ops : List HubOp) :
    let st := HubSt.reach M tokP tokS cfg .bolt 0 cap ops
    st.db.map (·.2) = st.accepted :=
  (run_db ops (HubSt.init cfg .bolt 0 cap) ⟨rfl, rfl, rfl⟩).1
end Invariants

/-! ## Single operations -/
section Single
variable (M : Str → Str → Bool) (tokP tokS : Str → Option Claims)

theorem publish_refused_status (cfg : HubCfg) (r : PubReq) (s : Nat) (b : Str)
    (h : Mercure.publish cfg M tokP r = .refused s b) : s ≠ 200 := by
  rcases publish_refused h with ⟨rfl, _⟩ | ⟨rfl, _⟩ <;> decide

theorem subscribeDecision_status (cfg : HubCfg) (r : SubReq) (s : Nat) (b : Str)
    (h : subscribeDecision cfg tokS r = .refused s b) : s ≠ 200 := by
  rcases subscribeDecision_refused h with rfl | rfl <;> decide

theorem publish_refused_noop (st : HubSt) (r : PubReq) (h : (st.publish M tokP r).2.status ≠ 200) :
    (st.publish M tokP r).1 = st := by
  cases hp : Mercure.publish st.cfg M tokP r with
  | refused s b => simp only [HubSt.publish, hp]
  | accepted u =>
    simp only [HubSt.publish, hp] at h ⊢
    rcases dispatch_spec M st u with ⟨_, h2⟩ | ⟨_, u', s', uu', db', _, _, _, _, h2⟩
    · simp only [h2]
    · simp only [h2] at h
      exact absurd rfl h

theorem closed_publish_noop (st : HubSt) (hc : st.closed = true) (r : PubReq) :
    (st.publish M tokP r).1 = st ∧ (st.publish M tokP r).2.status ≠ 200 := by
  have hs : (st.publish M tokP r).2.status ≠ 200 := by
    cases hp : Mercure.publish st.cfg M tokP r with
    | refused s b =>
      simp only [HubSt.publish, hp]
      exact publish_refused_status M tokP _ _ _ _ hp
    | accepted u =>
      simp only [HubSt.publish, hp]
      rcases dispatch_spec M st u with ⟨_, h2⟩ | ⟨h1, _⟩
      · simp only [h2]
        decide
      · rw [hc] at h1; cases h1
  exact ⟨publish_refused_noop M tokP st r hs, hs⟩

/-- A subscribe that is not answered 200 does nothing but draw a uuid. -/
theorem connect_refused_eq (st : HubSt) (label : Nat) (r : SubReq)
    (h : (st.connect M tokS label r).2.status ≠ 200) :
    (st.connect M tokS label r).1 = { st with uuid := st.uuid + 1 } := by
  cases hd : subscribeDecision st.cfg tokS r with
  | refused s b => rw [connect_refused tokS st label r s b hd]
  | accepted c priv leid =>
    rw [connect_accepted tokS st label r c priv leid hd] at h ⊢
    simp only [] at h ⊢
    split
    · -- the hub is closed: nothing is announced
      rename_i hc
      rw [subEvents_closed] at hc
      have e : ∀ c0 a, HubSt.subscriptionEvents M { st with uuid := st.uuid + 1 } c0 a = { st with uuid := st.uuid + 1 } :=
        fun c0 a => subEvents_of_closed _ c0 a hc
      rw [e, e]
    · rename_i hc
      rw [if_neg hc] at h
      exact absurd rfl h

theorem closed_connect_status (st : HubSt) (hc : st.closed = true) (label : Nat) (r : SubReq) :
    (st.connect M tokS label r).2.status ≠ 200 := by
  cases hd : subscribeDecision st.cfg tokS r with
  | refused s b =>
    rw [connect_refused tokS st label r s b hd]
    exact subscribeDecision_status tokS _ _ _ _ hd
  | accepted c priv leid =>
    rw [connect_accepted tokS st label r c priv leid hd]
    simp only []
    rw [subEvents_closed, if_pos hc]
    show (503 : Nat) ≠ 200
    decide

theorem closed_connect_rejected (st : HubSt) (hc : st.closed = true) (label : Nat) (r : SubReq) :
    let res := st.connect M tokS label r
    res.2.status ≠ 200 ∧ res.1.conns = st.conns ∧ res.1.index = st.index ∧ res.1.db = st.db ∧
    res.1.accepted = st.accepted ∧ res.1.closed = true := by
  intro res
  have hs := closed_connect_status M tokS st hc label r
  simp only [res, connect_refused_eq M tokS st label r hs]
  exact ⟨hs, trivial, trivial, trivial, trivial, hc⟩

/-! ### close and restart (C15, C07) -/

theorem Conn.enqueue_closedOut (cap : Nat) (c : Conn) (u : Update) (h : c.closedOut = true) :
    (c.enqueue cap u).1.closedOut = true := by
  unfold Conn.enqueue; simp only [h, if_true]

theorem presCore_closedOut (I : List Nat) :
    PresCore M (fun st => ∀ c ∈ st.conns, c.label ∈ I → c.closedOut = true) where
  dispatch st u h := by
    rcases dispatch_spec M st u with ⟨_, h2⟩ | ⟨_, u', s', uu', db', _, _, _, _, h2⟩ <;> rw [h2]
    · exact h
    · apply all_map_conns _ h
      intro c hc
      split
      · intro hl
        rw [show (c.enqueue st.cap u').1.label = c.label from congrArg CoreC.label (c.enqueue_core _ _)] at hl
        exact Conn.enqueue_closedOut _ _ _ (hc hl)
      · exact hc
  events st ev h := h
  pump st h := all_map_conns (fun c hc => by
    rw [show c.pump.label = c.label from congrArg CoreC.label c.pump_core, c.pump_frame.2.1]; exact hc) h
  shut st l c b' _ _ h := all_updConn _ (fun c _ _ => rfl) h

theorem close_ends_registered (st : HubSt) (ho : st.closed = false) :
    ∀ c ∈ (st.close M).conns, c.label ∈ st.index → c.closedOut = true := by
  unfold HubSt.close
  simp only [ho, Bool.false_eq_true, if_false]
  apply (presCore_closedOut M st.index).settle
  intro c hc
  rcases List.mem_map.1 hc with ⟨c0, h0, rfl⟩
  split
  · intro _; rfl
  · rename_i hn
    intro hl
    exact absurd (List.contains_iff_mem.2 hl) hn

theorem close_idempotent (st : HubSt) : (st.close M).close M = st.close M := by
  have h := close_closed (M := M) st
  generalize st.close M = s at h
  unfold HubSt.close
  simp only [h, if_true]

theorem presCore_frozen (d : List (Nat × Update)) (s : Nat) (k : Kind) :
    PresCore M (fun st => st.closed = true ∧ st.db = d ∧ st.seq = s ∧ st.kind = k) where
  dispatch st u h := by
    rcases dispatch_spec M st u with ⟨_, h2⟩ | ⟨h1, _⟩
    · rw [h2]; exact h
    · rw [h.1] at h1; cases h1
  events st ev h := h
  pump st h := h
  shut st l c b' _ _ h := h

theorem close_frame (st : HubSt) :
    (st.close M).db = st.db ∧ (st.close M).seq = st.seq ∧ (st.close M).kind = st.kind := by
  unfold HubSt.close
  split
  · exact ⟨rfl, rfl, rfl⟩
  · refine ((presCore_frozen M st.db st.seq st.kind).settle _ _ ?_).2
    exact ⟨rfl, rfl, rfl, rfl⟩

theorem restart_keeps_history' (st : HubSt) (hk : st.kind = .bolt) :
    (st.restart M).db = st.db ∧ (st.restart M).seq = st.seq ∧ (st.restart M).closed = false ∧
    (st.restart M).lastEventID = (match st.db.getLast? with | some e => e.2.id | none => earliest) := by
  obtain ⟨h1, h2, h3⟩ := close_frame M st
  unfold HubSt.restart
  simp only [h3, hk, h1, h2]
  refine ⟨trivial, trivial, trivial, ?_⟩
  cases st.db.getLast? <;> rfl

theorem restart_keeps_history (st : HubSt) (hk : st.kind = .bolt) :
    (st.restart M).db = st.db ∧ (st.restart M).seq = st.seq ∧ (st.restart M).closed = false ∧
    (st.restart M).lastEventID = (match st.db.getLast? with | some e => e.2.id | none => earliest) :=
  restart_keeps_history' M st hk
end Single

end Mercure

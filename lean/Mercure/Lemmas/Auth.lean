import Mercure.Model.Subscribe
/-
  Mercure.Lemmas.Auth — what `validateTok`, `authorize`, `subscribeDecision` and `canDispatch` decide,
  stated once: one equation of `authorize` per credential carrier, and from them the three ways a call
  can end (`authorize_cases`). Props/C03 and Props/C04 and the hub lemmas rest on these and never unfold
  `authorize` again.
-/
namespace Mercure

theorem validateTok_ok_some {tok : Str → Option Claims} {s : Str} {c : Claims} :
    validateTok tok s = .ok (some c) ↔ tok s = some c := by
  unfold validateTok
  cases h : tok s <;> simp

theorem validateTok_ne_ok_none (tok : Str → Option Claims) (s : Str) :
    validateTok tok s ≠ .ok none := by
  unfold validateTok
  cases h : tok s <;> simp

theorem validateTok_of_none {tok : Str → Option Claims} {s : Str} (h : tok s = none) :
    validateTok tok s = .error .invalidJWT := by
  unfold validateTok; simp [h]

theorem validateTok_of_some {tok : Str → Option Claims} {s : Str} {c : Claims} (h : tok s = some c) :
    validateTok tok s = .ok (some c) := by
  unfold validateTok; simp [h]

/-! ### `authorize`, one carrier at a time

`C04.effOrigin` and `C03.presented` are vocabulary of those properties' statements; they are defined here because the
equations below are stated with them. -/

/-- The origin a cookie-authenticated POST is judged by: `Origin`, else the origin of a parsable `Referer`. -/
def C04.effOrigin (r : AuthReq) : Option Str :=
  if r.origin != [] then some r.origin else if r.referer == [] then none else r.refererOrigin

/-- The credential a request presents: the value `authorize` hands to `validateJWT`, if it gets that far. -/
def C03.presented (minH minQ : Nat) (r : AuthReq) : Option Str :=
  match r.authHeaders with
  | some [h] => if utf8Len h < minH || !(hasPrefix bearerPrefix h) then none else some (h.drop bearerPrefix.length)
  | some _ => none
  | none =>
    match r.queryAuth with
    | some [q] => if utf8Len q < minQ then none else some q
    | some _ => none
    | none => r.cookie

section
variable {minH minQ : Nat} {tok : Str → Option Claims} {r : AuthReq} {po : List Str}

theorem authorize_header {hs : List Str} : r.authHeaders = some hs →
    authorize minH minQ tok r po =
      match hs with
      | [hd] => if utf8Len hd < minH || !(hasPrefix bearerPrefix hd) then .error .invalidHeader
                else validateTok tok (hd.drop bearerPrefix.length)
      | _ => .error .invalidHeader := by
  intro h; unfold authorize; rw [h]; rfl

theorem authorize_query {qs : List Str} (h0 : r.authHeaders = none) : r.queryAuth = some qs →
    authorize minH minQ tok r po =
      match qs with
      | [q] => if utf8Len q < minQ then .error .invalidQuery else validateTok tok q
      | _ => .error .invalidQuery := by
  intro h; unfold authorize; rw [h0, h]; rfl

/-- No header, no query parameter: the cookie decides. A safe method goes straight to the token; a POST
    first needs an effective origin among the publish origins (the CSRF rule). -/
theorem authorize_cookie (h0 : r.authHeaders = none) (h1 : r.queryAuth = none) :
    authorize minH minQ tok r po =
      match r.cookie with
      | none => .ok none
      | some ck =>
        if r.isPost then
          match C04.effOrigin r with
          | some o => if po.any (fun a => a == ['*'] || o == a) then validateTok tok ck
                      else .error .originNotAllowed
          | none => .error (if r.referer == [] then .noOrigin else .badReferer)
        else validateTok tok ck := by
  unfold authorize C04.effOrigin; rw [h0, h1]
  cases r.cookie with
  | none => rfl
  | some ck =>
    cases r.isPost
    · rfl
    · by_cases ho : (r.origin != []) = true
      · simp only [ho]; rfl
      · by_cases hr : (r.referer == []) = true
        · simp only [ho, hr]; rfl
        · cases r.refererOrigin <;> simp only [ho, hr] <;> rfl

/-- **The three ways `authorize` ends**: an error; no credential on any carrier; or the verdict of
    `validateTok` on the one credential the request presents. -/
theorem authorize_cases (minH minQ : Nat) (tok : Str → Option Claims) (r : AuthReq) (po : List Str) :
    (∃ e, authorize minH minQ tok r po = .error e) ∨
    (authorize minH minQ tok r po = .ok none ∧
      r.authHeaders = none ∧ r.queryAuth = none ∧ r.cookie = none) ∨
    (∃ s, C03.presented minH minQ r = some s ∧ authorize minH minQ tok r po = validateTok tok s) := by
  cases h0 : r.authHeaders with
  | some hs =>
    rw [authorize_header h0]
    unfold C03.presented; rw [h0]
    rcases hs with _ | ⟨hd, _ | _⟩
    · exact .inl ⟨_, rfl⟩
    · dsimp only; split
      · exact .inl ⟨_, rfl⟩
      · exact .inr (.inr ⟨_, rfl, rfl⟩)
    · exact .inl ⟨_, rfl⟩
  | none =>
    cases h1 : r.queryAuth with
    | some qs =>
      rw [authorize_query h0 h1]
      unfold C03.presented; rw [h0, h1]
      rcases qs with _ | ⟨q, _ | _⟩
      · exact .inl ⟨_, rfl⟩
      · dsimp only; split
        · exact .inl ⟨_, rfl⟩
        · exact .inr (.inr ⟨_, rfl, rfl⟩)
      · exact .inl ⟨_, rfl⟩
    | none =>
      have hp : C03.presented minH minQ r = r.cookie := by unfold C03.presented; rw [h0, h1]
      rw [authorize_cookie h0 h1, hp]
      cases r.cookie with
      | none => exact .inr (.inl ⟨rfl, rfl, rfl, rfl⟩)
      | some ck =>
        -- every leaf of the cookie rule is `validateTok tok ck` or an error
        dsimp only
        repeat' split
        all_goals first | exact .inl ⟨_, rfl⟩ | exact .inr (.inr ⟨ck, rfl, rfl⟩)

theorem authorize_ok_some {c : Claims} (h : authorize minH minQ tok r po = .ok (some c)) :
    ∃ s, tok s = some c := by
  rcases authorize_cases minH minQ tok r po with ⟨e, he⟩ | ⟨hn, _⟩ | ⟨s, _, hs⟩
  · rw [he] at h; cases h
  · rw [hn] at h; cases h
  · exact ⟨s, validateTok_ok_some.mp (hs ▸ h)⟩

end

/-! ### `subscribeDecision`, `publish` -/

/-- **When a subscription is accepted, and with what**: the credential check passed (or no subscriber
    key is configured), an anonymous caller is allowed to be one, there is a topic; the private selectors
    are the token's `mercure.subscribe` and the last event id is the requested one. -/
theorem subscribeDecision_accepted_iff {cfg : HubCfg} {tok : Str → Option Claims} {r : SubReq}
    {c : Option Claims} {p : List Str} {l : Str} :
    subscribeDecision cfg tok r = .accepted c p l ↔
      (if cfg.subKey then authorize cfg.minHeader cfg.minQuery tok r.auth [] else .ok none) = .ok c ∧
      (cfg.subKey = true → c = none → cfg.anonymous = true) ∧ r.topics ≠ [] ∧
      p = (match c with | some cl => cl.mercure.subscribe.getD [] | none => []) ∧
      l = requestedLEID cfg.compat7 r.leid := by
  unfold subscribeDecision
  generalize (if cfg.subKey then authorize cfg.minHeader cfg.minQuery tok r.auth [] else .ok none) = a
  rcases a with e | c'
  · simp
  · dsimp only
    by_cases hg : (cfg.subKey && c'.isNone && !cfg.anonymous) = true
    · rw [if_pos hg]
      have : ¬ (cfg.subKey = true → c' = none → cfg.anonymous = true) := by
        cases c' <;> simp_all
      simp only [reduceCtorEq, false_iff, not_and, Except.ok.injEq]
      rintro rfl h; exact absurd h this
    · rw [if_neg hg]
      have : cfg.subKey = true → c' = none → cfg.anonymous = true := by
        cases c' <;> simp_all
      by_cases ht : r.topics = []
      · simp [ht]
      · have ht' : (r.topics == []) = false := by simpa using ht
        simp only [ht', Bool.false_eq_true, if_false, SubDecision.accepted.injEq, Except.ok.injEq]
        constructor
        · rintro ⟨rfl, rfl, rfl⟩; exact ⟨rfl, this, ht, rfl, rfl⟩
        · rintro ⟨rfl, _, _, rfl, rfl⟩; exact ⟨rfl, rfl, rfl⟩

/-- The claims and the private selectors of an accepted subscription come out of `authorize`:
    rights are exactly the validated token's (effective) `mercure.subscribe`. -/
theorem subscribeDecision_rights {cfg : HubCfg} {tok : Str → Option Claims} {r : SubReq}
    {c : Option Claims} {p : List Str} {l : Str} (h : subscribeDecision cfg tok r = .accepted c p l) :
    (c = none ∧ p = []) ∨ (∃ cl s, c = some cl ∧ tok s = some cl ∧ p = cl.mercure.subscribe.getD []) := by
  obtain ⟨ha, _, _, rfl, _⟩ := subscribeDecision_accepted_iff.mp h
  cases c with
  | none => exact .inl ⟨rfl, rfl⟩
  | some cl =>
    split at ha
    · obtain ⟨s, hs⟩ := authorize_ok_some ha
      exact .inr ⟨cl, s, rfl, hs, rfl⟩
    · cases ha

theorem subscribeDecision_refused {cfg : HubCfg} {tok : Str → Option Claims} {r : SubReq}
    {s : Nat} {b : Str} (h : subscribeDecision cfg tok r = .refused s b) : s = 401 ∨ s = 400 := by
  unfold subscribeDecision at h
  generalize (if cfg.subKey then authorize cfg.minHeader cfg.minQuery tok r.auth [] else .ok none) = a at h
  rcases a with e | c'
  · cases h; exact .inl rfl
  · dsimp only at h
    repeat' split at h
    all_goals cases h
    · exact .inl rfl
    · exact .inr rfl

/-- **When a publication is accepted, and with what.** -/
theorem publish_accepted_iff {cfg : HubCfg} {M : Str → Str → Bool} {tok : Str → Option Claims} {r : PubReq} {u : Update} :
    publish cfg M tok r = .accepted u ↔
      ∃ c ps retry, authorize cfg.minHeader cfg.minQuery tok r.auth cfg.publishOrigins = .ok (some c) ∧
        c.mercure.publish = some ps ∧ r.formOk = true ∧ r.topics ≠ [] ∧
        (if r.retryStr = [] then some 0 else parseUint64 r.retryStr) = some retry ∧
        (canDispatch M r.topics ps = true ∨ (cfg.compat7 = true ∧ r.priv = false)) ∧
        u = { id := r.id, topics := r.topics, priv := r.priv, data := r.data, type := r.type, retry := retry } := by
  unfold publish
  generalize "Missing \"topic\" parameter\n".toList = b1
  generalize "Invalid \"retry\" parameter\n".toList = b2
  rcases authorize cfg.minHeader cfg.minQuery tok r.auth cfg.publishOrigins with e | _ | c
  · simp
  · simp
  · rcases hps : c.mercure.publish with _ | ps
    · simp [hps]
    · simp only [Except.ok.injEq, Option.some.injEq, exists_and_left, exists_eq_left', hps]
      cases r.formOk
      · simp
      · by_cases ht : r.topics = []
        · simp [ht]
        · have hre : (if (r.retryStr == []) = true then some 0 else parseUint64 r.retryStr) =
              (if r.retryStr = [] then some 0 else parseUint64 r.retryStr) := by simp
          rw [hre]
          rcases (if r.retryStr = [] then some 0 else parseUint64 r.retryStr) with _ | retry
          · simp [ht]
          · cases canDispatch M r.topics ps <;> cases r.priv <;> cases cfg.compat7 <;> simp [ht] <;> exact eq_comm

/-- Every refusal is a 4xx carrying a fixed status text — never an update id. -/
theorem publish_refused {cfg : HubCfg} {M : Str → Str → Bool} {tok : Str → Option Claims} {r : PubReq}
    {s : Nat} {b : Str} (h : publish cfg M tok r = .refused s b) :
    (s = 401 ∧ b = unauthorizedBody) ∨
    (s = 400 ∧ (b = badRequestBody ∨ b = "Missing \"topic\" parameter\n".toList ∨ b = "Invalid \"retry\" parameter\n".toList)) := by
  unfold publish at h
  generalize "Missing \"topic\" parameter\n".toList = b1 at h ⊢
  generalize "Invalid \"retry\" parameter\n".toList = b2 at h ⊢
  generalize (if (r.retryStr == []) = true then some 0 else parseUint64 r.retryStr) = re at h
  cases re <;> simp only at h <;> (repeat' split at h) <;> (cases h <;> simp)

/-! ### canDispatch -/

theorem canDispatchTopic_spec (M : Str → Str → Bool) (t : Str) (sels : List Str) :
    (canDispatchTopic M t sels = some true → ['*'] ∈ sels) ∧
    (canDispatchTopic M t sels = none → sels.any (fun x => x == ['*'] || M t x) = true) ∧
    (canDispatchTopic M t sels = some false → sels.any (fun x => x == ['*'] || M t x) = false) := by
  induction sels with
  | nil => simp [canDispatchTopic]
  | cons x xs ih =>
    unfold canDispatchTopic
    by_cases hx : x = ['*']
    · subst hx; simp
    · have hx' : (x == ['*']) = false := by simpa using hx
      simp only [hx', Bool.false_eq_true, if_false, List.any_cons, Bool.false_or]
      cases hm : M t x
      · simp only [Bool.false_eq_true, if_false, Bool.false_or]
        refine ⟨fun h => List.mem_cons_of_mem _ (ih.1 h), ih.2.1, ih.2.2⟩
      · simp

theorem canDispatch_eq_all_any (M : Str → Str → Bool) (ts sels : List Str) :
    canDispatch M ts sels = ts.all (fun t => sels.any (fun x => x == ['*'] || M t x)) := by
  induction ts with
  | nil => simp [canDispatch]
  | cons t ts ih =>
    unfold canDispatch
    obtain ⟨h1, h2, h3⟩ := canDispatchTopic_spec M t sels
    cases h : canDispatchTopic M t sels with
    | none => simp only [List.all_cons, h2 h, Bool.true_and]; exact ih
    | some b =>
      cases b with
      | true =>
        -- the early `return true` at "*": with "*" among the selectors every remaining topic is allowed as well
        have hs := h1 h
        symm; rw [List.all_eq_true]; intro t' _
        rw [List.any_eq_true]; exact ⟨['*'], hs, by simp⟩
      | false => simp only [List.all_cons, h3 h, Bool.false_and]

theorem canDispatch_eq_true_iff (M : Str → Str → Bool) (ts sels : List Str) :
    canDispatch M ts sels = true ↔ ∀ t ∈ ts, ∃ p ∈ sels, p = ['*'] ∨ M t p = true := by
  rw [canDispatch_eq_all_any]; simp

end Mercure

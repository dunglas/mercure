import Mercure.Lemmas.SysSafety
import Mercure.Lemmas.Keyed
/-
  Lemmas for C09 over the region-level model (`Mercure.Sys`), Bolt transport, repaired flags: `Inv` (the store is the
  accepted sequence from a cut on, `DbInv`, read through `Keyed`; whatever a subscriber or a frame carries has been
  accepted; an acknowledged dispatch has persisted its update), kept by the canonical effect under conditions on its
  arguments (`Inv_upd`). `crash_restart_keeps_committed`, `step_keeps_positions` and `run_size` are for all flags.
-/
namespace Mercure.Sys.Durable
open Mercure.Sys

/-! ### projections (the equations of `SysTrans`, under this namespace's names; `simp` finds either), and the repaired flags -/

@[simp] theorem setThread_tr (σ : Sys) (i f) : (setThread σ i f).tr = σ.tr := rfl
@[simp] theorem setThread_subs (σ : Sys) (i f) : (setThread σ i f).subs = σ.subs := rfl
@[simp] theorem setThread_flags (σ : Sys) (i f) : (setThread σ i f).flags = σ.flags := rfl
@[simp] theorem setTr_tr (σ : Sys) (f) : (setTr σ f).tr = f σ.tr := rfl
@[simp] theorem setTr_subs (σ : Sys) (f) : (setTr σ f).subs = σ.subs := rfl
@[simp] theorem setTr_threads (σ : Sys) (f) : (setTr σ f).threads = σ.threads := rfl
@[simp] theorem setTr_flags (σ : Sys) (f) : (setTr σ f).flags = σ.flags := rfl
@[simp] theorem setSub_tr (σ : Sys) (s f) : (setSub σ s f).tr = σ.tr := rfl
@[simp] theorem setSub_threads (σ : Sys) (s f) : (setSub σ s f).threads = σ.threads := rfl
@[simp] theorem setSub_flags (σ : Sys) (s f) : (setSub σ s f).flags = σ.flags := rfl

@[simp] theorem rep1 : Flags.repaired.closeOnOverflow = true := rfl
@[simp] theorem rep2 : Flags.repaired.readyGuard = true := rfl
@[simp] theorem rep3 : Flags.repaired.disconnectRecheck = true := rfl
@[simp] theorem rep4 : Flags.repaired.localMatchLocked = true := rfl
@[simp] theorem rep5 : Flags.repaired.lastSeqOnOpen = true := rfl
@[simp] theorem rep6 : Flags.repaired.cutBeforeDispatch = true := rfl

/-! ### the invariant -/

/-- Updates carried by a frame; all of them have been accepted. -/
def fupds : Frame → List Upd
  | .sDispatch _ u _ _ => [u]
  | .sReady _ _ q => q
  | .tDispatch u pc _ => if pc ≤ 2 then [] else [u]
  | .tAdd _ _ _ scan _ => scan.map (·.2)
  | _ => []

@[simp] theorem fupds_sDispatch (s u h pc) : fupds (.sDispatch s u h pc) = [u] := rfl
@[simp] theorem fupds_sReady (s pc q) : fupds (.sReady s pc q) = q := rfl
@[simp] theorem fupds_tDispatch (u pc rs) : fupds (.tDispatch u pc rs) = if pc ≤ 2 then [] else [u] := rfl
@[simp] theorem fupds_tAdd (s pc ts sc rp) : fupds (.tAdd s pc ts sc rp) = sc.map (·.2) := rfl
@[simp] theorem fupds_sDisconnect (s pc) : fupds (.sDisconnect s pc) = [] := rfl
@[simp] theorem fupds_tRemove (s pc) : fupds (.tRemove s pc) = [] := rfl
@[simp] theorem fupds_tClose (pc td) : fupds (.tClose pc td) = [] := rfl
@[simp] theorem fupds_tList : fupds .tList = [] := rfl
@[simp] theorem fupds_uRecv (s) : fupds (.uRecv s) = [] := rfl

/-- The bottom frame of the stack, if any, is `tDispatch u`. -/
def Bot (u : Upd) : List Frame → Prop
  | [] => True
  | [f] => ∃ pc rs, f = .tDispatch u pc rs
  | _ :: g :: rest => Bot u (g :: rest)

theorem Bot_of_VS {n : Nat} {u : Upd} {st : List Frame} (h : Stream.VS n (.dispatch u) st) : Bot u st := by
  cases h <;> simp [Bot]

def SubOK (acc : List Upd) (b : Sub) : Prop := ∀ u, (u ∈ b.enq ∨ u ∈ b.liveQueue) → u ∈ acc

/-- The store is the accepted sequence from a cut `k` on, each update under the sequence number it was given (its
    position + 1); without retention nothing is cut, with it at most what lies before the last `size`. -/
def DbInv (t : Tr) : Prop :=
  t.seq = t.accepted.length ∧
  ∃ k, (t.size = 0 → k = 0) ∧ (t.size ≠ 0 → k ≤ t.accepted.length - t.size) ∧
    t.db.map (·.2) = t.accepted.drop k ∧ t.db.map (·.1) = List.range' (k + 1) (t.accepted.length - k)

/-- `subs`, `frames`: whatever a subscriber has been sent or has queued, and whatever a frame carries, has been
    accepted; `disp`: a dispatch that has returned `ok` has had its update accepted. -/
structure Inv (σ : Sys) : Prop where
  flags : σ.flags = Flags.repaired
  kind : σ.tr.kind = .bolt
  db : DbInv σ.tr
  subs : ∀ b ∈ σ.subs, SubOK σ.tr.accepted b
  frames : ∀ (i : Nat) (th : Thread), σ.threads[i]? = some th → ∀ f ∈ th.stack, ∀ u ∈ fupds f, u ∈ σ.tr.accepted
  disp : ∀ (i : Nat) (th : Thread), σ.threads[i]? = some th → ∀ u, th.op = .dispatch u →
    Bot u th.stack ∧ (th.ret = some .ok → u ∈ σ.tr.accepted)

theorem Inv.f6 {σ : Sys} (h : Inv σ) : σ.flags.cutBeforeDispatch = true := by rw [h.flags]; rfl

/-- The part of the transport state the invariant talks about. -/
def core (t : Tr) : List (Nat × Upd) × Nat × Nat × List Upd × Kind := (t.db, t.seq, t.size, t.accepted, t.kind)

theorem DbInv_of_core {t t' : Tr} (h : core t' = core t) (hd : DbInv t) : DbInv t' := by
  unfold core at h
  simp only [Prod.mk.injEq] at h
  obtain ⟨h1, h2, h3, h4, -⟩ := h
  unfold DbInv
  rw [h1, h2, h3, h4]
  exact hd

/-- `DbInv` is `Keyed` with the cut bounded by the retention size. -/
theorem DbInv.keyed {t : Tr} (h : DbInv t) :
    ∃ k, Keyed k t.accepted t.db ∧ (t.size = 0 → k = 0) ∧ (t.size ≠ 0 → k ≤ t.accepted.length - t.size) := by
  obtain ⟨-, k, hz, hle, hsnd, hfst⟩ := h
  refine ⟨k, ⟨?_, hsnd, hfst⟩, hz, hle⟩
  by_cases h0 : t.size = 0
  · rw [hz h0]; omega
  · have := hle h0; omega

theorem db_sub_acc {t : Tr} (hd : DbInv t) : ∀ e ∈ t.db, e.2 ∈ t.accepted := by
  obtain ⟨k, hk, -⟩ := hd.keyed
  exact fun _ he => hk.mem_acc he

/-- Thread `i`, whose stack is `fr :: rest`, takes the canonical effect with new stack `st`. The invariant is kept
    if the transport update keeps the store invariant and only adds to `accepted`, the subscriber update keeps
    `enq` and `liveQueue` within `accepted`, the frames of `st` that are not frames of `rest` carry accepted
    updates only, and a `tDispatch u` frame that returns without error has persisted `u`. -/
theorem Inv_upd {σ : Sys} {i : Nat} {th : Thread} {fr : Frame} {rest : List Frame} {sf : Option (Nat × (Sub → Sub))}
    {g : Tr → Tr} {st : List Frame} {l : Option Bool} {r : Option Ret}
    (hS : Stream.Shape σ) (hI : Inv σ) (hth : σ.threads[i]? = some th) (hst : th.stack = fr :: rest)
    (hS' : Stream.Shape (Stream.upd σ i sf g st l r))
    (hkind : (g σ.tr).kind = σ.tr.kind) (hdb : DbInv (g σ.tr)) (hacc : ∀ u ∈ σ.tr.accepted, u ∈ (g σ.tr).accepted)
    (hsf : ∀ s f, sf = some (s, f) → ∀ b, SubOK (g σ.tr).accepted b → SubOK (g σ.tr).accepted (f b))
    (hfr : (∀ u ∈ fupds fr, u ∈ σ.tr.accepted) → ∀ f ∈ st, f ∈ rest ∨ ∀ u ∈ fupds f, u ∈ (g σ.tr).accepted)
    (hret : ∀ u pc rs, fr = .tDispatch u pc rs → st = [] → (r.orElse fun _ => some .ok) = some .ok →
      u ∈ (g σ.tr).accepted) :
    Inv (Stream.upd σ i sf g st l r) := by
  have hsub : ∀ b ∈ σ.subs, SubOK (g σ.tr).accepted b := fun b hb u hu => hacc u (hI.subs b hb u hu)
  have hold := hI.frames i th hth
  rw [hst] at hold
  refine ⟨(Stream.upd_flags ..).trans hI.flags, ?_, ?_, ?_, ?_, ?_⟩ <;> simp only [Stream.upd_tr]
  · exact hkind.trans hI.kind
  · exact hdb
  · intro b hb
    cases sf with
    | none => exact hsub b hb
    | some p =>
      rcases Stream.mem_setSub hb with h | ⟨hs, rfl⟩
      · exact hsub b h
      · exact hsf _ _ rfl _ (hsub _ (Stream.getSub_mem hs))
  · intro j th' hj f hf u hu
    rcases Stream.upd_threads_cases hth hj with ⟨-, rfl⟩ | hj
    · rcases hfr (hold fr List.mem_cons_self) f hf with h | h
      · exact hacc u (hold f (List.mem_cons_of_mem _ h) u hu)
      · exact h u hu
    · exact hacc u (hI.frames j th' hj f hf u hu)
  · intro j th' hj u hop
    refine ⟨Bot_of_VS (hop ▸ hS'.vs j th' hj), fun hr => ?_⟩
    rcases Stream.upd_threads_cases hth hj with ⟨-, rfl⟩ | hj
    · rcases Stream.vs_dispatch (hst ▸ hop ▸ hS.vs i th hth) with ⟨pc, rs, rfl⟩ | ⟨rs, hm⟩
      · by_cases he : st = []
        · exact hret u pc rs rfl he (by simpa [retOf, he] using hr)
        · exact hacc u ((hI.disp i th hth u hop).2 (by simpa [retOf, he] using hr))
      · exact hacc u (hold _ (List.mem_cons_of_mem _ hm) u (by simp))
    · exact hacc u ((hI.disp j th' hj u hop).2 hr)

theorem Inv_upd_core {σ : Sys} {i : Nat} {th : Thread} {fr : Frame} {rest : List Frame} {sf : Option (Nat × (Sub → Sub))}
    {g : Tr → Tr} {st : List Frame} {l : Option Bool} {r : Option Ret}
    (hS : Stream.Shape σ) (hI : Inv σ) (hth : σ.threads[i]? = some th) (hst : th.stack = fr :: rest)
    (hS' : Stream.Shape (Stream.upd σ i sf g st l r)) (hc : core (g σ.tr) = core σ.tr)
    (hsf : ∀ s f, sf = some (s, f) → ∀ b, SubOK σ.tr.accepted b → SubOK σ.tr.accepted (f b))
    (hfr : (∀ u ∈ fupds fr, u ∈ σ.tr.accepted) → ∀ f ∈ st, f ∈ rest ∨ ∀ u ∈ fupds f, u ∈ σ.tr.accepted)
    (hret : ∀ u pc rs, fr = .tDispatch u pc rs → st = [] → (r.orElse fun _ => some .ok) = some .ok →
      u ∈ σ.tr.accepted) :
    Inv (Stream.upd σ i sf g st l r) := by
  have ha : (g σ.tr).accepted = σ.tr.accepted := congrArg (·.2.2.2.1) hc
  exact Inv_upd hS hI hth hst hS' (congrArg (·.2.2.2.2) hc) (DbInv_of_core hc hI.db) (fun _ h => ha ▸ h)
    (ha ▸ hsf) (ha ▸ hfr) (ha ▸ hret)

theorem subOK_snoc {acc : List Upd} {b b' : Sub} {u : Upd} (hu : u ∈ acc) (h : SubOK acc b)
    (h' : ∀ x, x ∈ b'.enq ∨ x ∈ b'.liveQueue → x = u ∨ x ∈ b.enq ∨ x ∈ b.liveQueue) : SubOK acc b' :=
  fun x hx => (h' x hx).elim (· ▸ hu) (h x)

/-! ### history scans -/

theorem scanLoop_upds (fl : Flags) (sb : Sub) (s toSeq : Nat) : ∀ (fuel : Nat) (todo : List (Nat × Upd)) (resp : Resp),
    ∀ f ∈ scanLoop fl sb s toSeq fuel todo resp, ∀ u ∈ fupds f, u ∈ todo.map (·.2)
  | 0, [], _ | 0, _ :: _, _ | _ + 1, [], _ => by simp [scanLoop]
  | fuel + 1, e :: more, resp => by
    unfold scanLoop
    repeat' split
    · simp
    · simp
    · simp
    · exact fun f hf u hu => List.mem_cons_of_mem _ (scanLoop_upds fl sb s toSeq fuel more resp f hf u hu)

theorem scanFrom_go_sub (n : Nat) : ∀ (db : List (Nat × Upd)) (last : Resp), ∀ e ∈ (scanFrom.go n db last).2, e ∈ db
  | [], last => by simp [scanFrom.go]
  | e :: rest, last => by
    unfold scanFrom.go
    split
    · intro e' he'; exact List.mem_cons_of_mem _ he'
    · intro e' he'; exact List.mem_cons_of_mem _ (scanFrom_go_sub n rest _ e' he')

theorem scanFrom_sub (db : List (Nat × Upd)) (req : Req) : ∀ e ∈ (scanFrom db req).2, e ∈ db := by
  cases req with
  | none => simp [scanFrom]
  | earliest => simp [scanFrom]
  | id n => exact scanFrom_go_sub n db _

theorem DbInv_update {t t' : Tr} {u : Upd} (h : DbInv t)
    (hseq : t'.seq = t.seq + 1) (hsize : t'.size = t.size) (hacc : t'.accepted = t.accepted ++ [u])
    (hdb : t'.db = retain t.size (t.seq + 1) (t.db ++ [(t.seq + 1, u)])) : DbInv t' := by
  have hs := h.1
  obtain ⟨k, hk, hz, hle⟩ := h.keyed
  -- append under the next key, then the body of `cleanup`
  have h1 := (hs ▸ hk.append u).cleanup t.size (t.seq + 1) (by simp [hs])
  unfold DbInv
  rw [hseq, hsize, hacc, hdb]
  refine ⟨by simp [hs], _, ?_, ?_, h1.snd, h1.fst⟩
  · intro h; simp [h, hz h]
  · intro h; have := hle h; simp only [if_neg h, List.length_append, List.length_singleton]; omega

/-! ### transitions -/

theorem Inv_trans {σ σp : Sys} {i : Nat} {th : Thread} (hS : Stream.Shape σ) (hI : Inv σ)
    (hth : σ.threads[i]? = some th) (h : Stream.Trans σ i th.stack σp) : Inv σp := by
  have hS' := Stream.shape_trans hS hth h
  generalize hst : th.stack = st at h
  cases h
  -- the transport is Bolt
  case tD2l hl | tA2lr hl _ | tA2ln hl _ | tC1l hl _ | tC2l hl | tC3l hl => cases hI.kind.symm.trans hl
  -- db.Update: `u` is accepted and stored under the next sequence number, the frame moves past pc 2
  case tD2bb =>
    exact Inv_upd hS hI hth hst hS' rfl (DbInv_update hI.db rfl rfl rfl rfl) (fun x hx => List.mem_append_left _ hx)
      (by rintro s f ⟨⟩) (by simp +contextual) (by simp)
  -- the frame's update (for Ready: the first of those it took over) is queued or sent
  case sD2a | sD5a | sR3a =>
    have hu := hI.frames i th hth _ (hst ▸ List.mem_cons_self) _ List.mem_cons_self
    exact Inv_upd_core hS hI hth hst hS' rfl
      (by rintro s f ⟨⟩; exact fun _ h => subOK_snoc hu h (by simp [or_assoc, or_comm, or_left_comm]))
      (by simp +contextual [Stream.flushStack_eq]) (by simp)
  -- Ready takes over the subscriber's queue
  case sR1 =>
    have hvs := hS.vs i th hth
    rw [hst] at hvs
    generalize th.op = op at hvs
    cases hvs with | tAr _ _ _ hs =>
    have hq := fun u hu => hI.subs _ (Stream.getSub_mem hs) u (.inr hu)
    exact Inv_upd_core hS hI hth hst hS' rfl (by rintro s f ⟨⟩; exact fun _ h => h)
      (fun _ => by simpa using hq) (by simp)
  -- the history scan reads the store
  case tA3c =>
    refine Inv_upd_core hS hI hth hst hS' rfl (by rintro s f ⟨⟩) (fun _ f hf => ?_) (by simp)
    refine (List.mem_append.1 hf).symm.imp_right fun hf x hx => ?_
    obtain ⟨e, he, rfl⟩ := List.mem_map.1 (scanLoop_upds _ _ _ _ _ _ _ f hf x hx)
    exact db_sub_acc hI.db e (scanFrom_sub _ _ e he)
  -- the read transaction ends
  case tA4 =>
    exact Inv_upd_core hS hI hth hst hS' (by simp [core]) (by rintro s f ⟨⟩; exact fun _ h => h)
      (by simp +contextual) (by simp)
  -- the others keep the durable part, `enq` and `liveQueue`, their new frames carry what the old top frame carried,
  -- and where a `tDispatch` frame returns (pc 0: closed, pc 2: no database) it returns an error
  all_goals
    exact Inv_upd_core hS hI hth hst hS' rfl (by rintro s f ⟨⟩ <;> exact fun _ h => h)
      (by simp +contextual [Stream.flushStack_eq]) (by simp)

theorem Inv_adm {σ σ' : Sys} {i : Nat} {th : Thread} (hS : Stream.Shape σ) (hI : Inv σ)
    (hth : σ.threads[i]? = some th) (h : Stream.Adm σ i th σ') : Inv σ' := by
  have hS' := Stream.shape_adm hS hth h
  cases h
  case d9nL hl _ | a7L hl _ | c9nL hl _ => cases hI.kind.symm.trans hl
  -- Dispatch returns without error: its frame is past db.Update
  case d9nB _ hst =>
    exact Inv_upd_core hS hI hth hst hS' rfl (by rintro s f ⟨⟩) (by simp +contextual)
      (by rintro u pc rs ⟨⟩ _ _; exact hI.frames i th hth _ (hst ▸ List.mem_cons_self) _ List.mem_cons_self)
  -- the history scan goes on with the rest of the frame's snapshot
  case a8t hst _ =>
    refine Inv_upd_core hS hI hth hst hS' rfl (by rintro s f ⟨⟩) (fun h f hf => ?_) (by simp)
    exact (List.mem_append.1 hf).symm.imp_right fun hf x hx =>
      h x (List.mem_cons_of_mem _ (scanLoop_upds _ _ _ _ _ _ _ f hf x hx))
  case d9c hst | a8n hst | a8f hst _ | a7B _ hst | c9c hst | c9nB _ hst =>
    exact Inv_upd_core hS hI hth hst hS' rfl (by rintro s f ⟨⟩) (by simp +contextual) (by simp)

theorem init_inv (size : Nat) (subs : List Sub) (ops : List Op) (wf : WellFormed subs ops) :
    Inv (Sys.init Flags.repaired .bolt size subs ops) := by
  refine ⟨rfl, rfl, ⟨rfl, 0, fun _ => rfl, fun _ => Nat.zero_le _, rfl, rfl⟩, ?_, ?_, ?_⟩
  · intro b hb
    obtain ⟨topics, req, cap, rfl⟩ := wf.fresh b hb
    intro u hu
    simp [Sub.fresh] at hu
  · intro j th h f hf u hu
    obtain ⟨o, -, rfl⟩ := Stream.init_threads _ _ _ _ _ j th h
    cases o <;> simp [Op.start] at hf <;> subst hf <;> simp at hu
  · intro j th h u hop
    refine ⟨Bot_of_VS (hop ▸ (Stream.WF_init wf).shape.vs j th h), ?_⟩
    obtain ⟨o, -, rfl⟩ := Stream.init_threads _ _ _ _ _ j th h
    exact fun hr => by cases hr

theorem reach_inv (size : Nat) (subs : List Sub) (ops : List Op) (wf : WellFormed subs ops) (sched : List Nat) :
    Inv (reach Flags.repaired .bolt size subs ops sched) :=
  (Safety.reach_inv (J := Inv) (fun _ _ _ _ hW hI hth h => Inv_trans hW.shape hI hth h)
    (fun _ _ _ _ _ hS hI hth h => Inv_adm hS hI hth h) wf (init_inv size subs ops wf) sched).2.2

/-! ### the theorems -/

variable (size : Nat) (subs : List Sub) (ops : List Op)

/-- Whatever was handed to a subscriber had been persisted before (persist precedes fan-out). -/
theorem delivered_was_accepted (wf : WellFormed subs ops) (sched : List Nat) :
    ∀ b ∈ (reach Flags.repaired .bolt size subs ops sched).subs, ∀ u ∈ b.enq,
      u ∈ (reach Flags.repaired .bolt size subs ops sched).tr.accepted := by
  intro b hb u hu
  exact (reach_inv size subs ops wf sched).subs b hb u (.inl hu)

/-- A Dispatch that returned without error had persisted its update. -/
theorem acked_was_accepted (wf : WellFormed subs ops) (sched : List Nat) :
    ∀ th ∈ (reach Flags.repaired .bolt size subs ops sched).threads, ∀ u, th.op = .dispatch u → th.ret = some .ok →
      u ∈ (reach Flags.repaired .bolt size subs ops sched).tr.accepted := by
  intro th hth u hop hr
  obtain ⟨j, hj⟩ := List.mem_iff_getElem?.mp hth
  exact ((reach_inv size subs ops wf sched).disp j th hj u hop).2 hr

/-- The store is the accepted sequence minus a discarded prefix, each update at the position
    (sequence number) it was given when accepted — positions never change. -/
theorem store_is_suffix_at_fixed_positions (wf : WellFormed subs ops) (sched : List Nat) :
    let σ := reach Flags.repaired .bolt size subs ops sched
    σ.tr.seq = σ.tr.accepted.length ∧
    ∃ k, σ.tr.db.map (·.2) = σ.tr.accepted.drop k ∧ σ.tr.db.map (·.1) = List.range' (k + 1) (σ.tr.accepted.length - k) := by
  intro σ
  obtain ⟨hs, k, -, -, h2, h1⟩ := (reach_inv size subs ops wf sched).db
  exact ⟨hs, k, h2, h1⟩

theorem run_size : ∀ (sched : List Nat) (σ : Sys), (run σ sched).tr.size = σ.tr.size
  | [], _ => rfl
  | i :: is, σ => (run_size is _).trans (Stream.step_dss σ i (P := fun d => d.2.2.1 = σ.tr.size) rfl (fun _ => rfl) rfl)

/-- Without retention nothing accepted is ever missing from the store. -/
theorem nothing_lost_without_retention (wf : WellFormed subs ops) (sched : List Nat) :
    (reach Flags.repaired .bolt 0 subs ops sched).tr.db.map (·.2) = (reach Flags.repaired .bolt 0 subs ops sched).tr.accepted := by
  obtain ⟨-, k, hz, -, h2, -⟩ := (reach_inv 0 subs ops wf sched).db
  have hsz : (reach Flags.repaired .bolt 0 subs ops sched).tr.size = 0 := run_size sched _
  rw [hz hsz] at h2
  simpa using h2

/-- With retention, everything among the last `size` accepted updates is in the store. -/
theorem recent_are_stored (hs : 0 < size) (wf : WellFormed subs ops) (sched : List Nat) :
    let σ := reach Flags.repaired .bolt size subs ops sched
    ∀ j, σ.tr.accepted.length - size ≤ j → ∀ u, σ.tr.accepted[j]? = some u → (j + 1, u) ∈ σ.tr.db := by
  intro σ j hj u hu
  have hI : Inv σ := reach_inv size subs ops wf sched
  obtain ⟨k, hk, -, hle⟩ := hI.db.keyed
  have hsz : σ.tr.size = size := run_size sched _
  have := hle (by rw [hsz]; omega)
  rw [hsz] at this
  exact hk.mem_db hu (by omega)

/-- A crash at ANY instant followed by a restart: the committed store, its sequence counter and the
    accepted log are intact (a transaction is one atomic step), volatile state is gone, the hub
    reports the id of the last stored update and its in-memory sequence is reloaded. -/
theorem crash_restart_keeps_committed (σ : Sys) (subs' : List Sub) (ops' : List Op) :
    (restart σ subs' ops').tr.db = σ.tr.db ∧ (restart σ subs' ops').tr.seq = σ.tr.seq ∧
    (restart σ subs' ops').tr.accepted = σ.tr.accepted ∧
    (restart σ subs' ops').tr.lastId = (match σ.tr.db.getLast? with | some e => .id e.2.id | none => .earliest) ∧
    (σ.flags.lastSeqOnOpen = true → (restart σ subs' ops').tr.lastSeq = σ.tr.seq) ∧
    (restart σ subs' ops').tr.closedCh = false ∧ (restart σ subs' ops').tr.index = [] := by
  refine ⟨rfl, rfl, rfl, rfl, ?_, rfl, rfl⟩
  intro h
  simp [restart, h]

/-- Steps never rewrite or reorder what is stored: an entry either stays where it is or is
    discarded by retention. -/
theorem step_keeps_positions (σ : Sys) (i : Nat) (e : Nat × Upd) (he : e ∈ σ.tr.db) :
    e ∈ (step σ i).σ.tr.db ∨ (σ.tr.size ≠ 0 ∧ e.1 + σ.tr.size ≤ (step σ i).σ.tr.seq) := by
  refine Stream.step_dss σ i (P := fun d => e ∈ d.1 ∨ (σ.tr.size ≠ 0 ∧ e.1 + σ.tr.size ≤ d.2.1)) (.inl he) (fun u => ?_) (.inl he)
  dsimp only
  unfold retain
  split
  · exact .inl (List.mem_append_left _ he)
  · next hc =>
    simp only [Bool.or_eq_true, beq_iff_eq, decide_eq_true_eq, not_or] at hc
    by_cases hk : e.1 > σ.tr.seq + 1 - σ.tr.size
    · left
      exact List.mem_filter.mpr ⟨List.mem_append_left _ he, by simpa using hk⟩
    · right
      exact ⟨hc.1, by omega⟩

end Mercure.Sys.Durable

#print axioms Mercure.Sys.Durable.delivered_was_accepted
#print axioms Mercure.Sys.Durable.acked_was_accepted
#print axioms Mercure.Sys.Durable.store_is_suffix_at_fixed_positions
#print axioms Mercure.Sys.Durable.nothing_lost_without_retention
#print axioms Mercure.Sys.Durable.recent_are_stored
#print axioms Mercure.Sys.Durable.crash_restart_keeps_committed
#print axioms Mercure.Sys.Durable.step_keeps_positions

import Mercure.Props.C16Defs
/-
  Mercure.Lemmas.Timed — the timed connection loop (`Mercure.Timed.loop`): one iteration as a relation,
  the shape of every trace, the heartbeat invariant, termination within the fuel, and the acceptor `runAll`.
-/
namespace Mercure.Timed
open Mercure.C16

/-! ### the instant of the next iteration -/

/-- When the case `k` of the `select` becomes ready. -/
def due (close : Option Nat) (s : St) (arr : List (Nat × Nat)) : Kind → Option Nat
  | .close => close
  | .disc => s.discDue
  | .hb => s.hbDue
  | .arr => arr.head?.map (·.1)

/-- Nothing is due before `t` (a lower bound, not necessarily attained: when the loop returns it holds of `hz + 1`). -/
def IsNext (close : Option Nat) (s : St) (arr : List (Nat × Nat)) (t : Nat) : Prop :=
  ∀ k x, due close s arr k = some x → t ≤ x

theorem mem_cands {s : St} {arr : List (Nat × Nat)} {close : Option Nat} {x : Nat} :
    x ∈ s.discDue.toList ++ s.hbDue.toList ++ (arr.head?.map (·.1)).toList ++ close.toList ↔
      ∃ k, due close s arr k = some x := by
  simp only [List.mem_append, Option.mem_toList]
  constructor
  · rintro (((h | h) | h) | h)
    · exact ⟨.disc, h⟩
    · exact ⟨.hb, h⟩
    · exact ⟨.arr, h⟩
    · exact ⟨.close, h⟩
  · rintro ⟨k, h⟩
    cases k
    · exact .inr h
    · exact .inl (.inl (.inl h))
    · exact .inl (.inl (.inr h))
    · exact .inl (.inr h)

theorem nextInstant_eq (close : Option Nat) (s : St) (arr : List (Nat × Nat)) :
    nextInstant close s arr =
      (s.discDue.toList ++ s.hbDue.toList ++ (arr.head?.map (·.1)).toList ++ close.toList).min? := by
  unfold nextInstant
  generalize s.discDue.toList ++ s.hbDue.toList ++ (arr.head?.map (·.1)).toList ++ close.toList = l
  cases l with
  | nil => rfl
  | cons a l => exact List.foldl_hom some (g₁ := min) fun y x => by simp [Nat.min_comm]

theorem nextInstant_none {close : Option Nat} {s : St} {arr : List (Nat × Nat)}
    (h : nextInstant close s arr = none) (t : Nat) : IsNext close s arr t := by
  intro k x hk
  rw [nextInstant_eq, List.min?_eq_none_iff] at h
  have := mem_cands.2 ⟨k, hk⟩
  rw [h] at this
  cases this

theorem nextInstant_some {close : Option Nat} {s : St} {arr : List (Nat × Nat)} {t : Nat}
    (h : nextInstant close s arr = some t) : IsNext close s arr t ∧ ∃ k, due close s arr k = some t := by
  rw [nextInstant_eq, List.min?_eq_some_iff] at h
  exact ⟨fun k x hk => h.2 x (mem_cands.2 ⟨k, hk⟩), mem_cands.1 h.1⟩

/-! ### `ready` and `pick` -/

theorem optLe_true {a : Option Nat} {t : Nat} : optLe a t = true ↔ ∃ x, a = some x ∧ x ≤ t := by
  cases a <;> simp [optLe]

theorem optLe_false {a : Option Nat} {t : Nat} (h : ¬ optLe a t = true) : ∀ x, a = some x → t < x := by
  intro x hx; subst hx; simp [optLe] at h; exact h

theorem mem_ready {close : Option Nat} {s : St} {arr : List (Nat × Nat)} {t : Nat} {k : Kind} :
    k ∈ ready close s arr t ↔ ∃ x, due close s arr k = some x ∧ x ≤ t := by
  have : arrReady arr t = optLe (arr.head?.map (·.1)) t := by cases arr <;> rfl
  rw [← optLe_true]
  cases k <;> simp [ready, due, this]

theorem IsNext.mem_ready {close : Option Nat} {s : St} {arr : List (Nat × Nat)} {t : Nat} {k : Kind}
    (hn : IsNext close s arr t) : k ∈ ready close s arr t ↔ due close s arr k = some t := by
  rw [Timed.mem_ready]
  constructor
  · rintro ⟨x, hx, hxt⟩
    rw [hx, Nat.le_antisymm hxt (hn k x hx)]
  · exact fun h => ⟨t, h, Nat.le_refl t⟩

theorem pick_eq_none {ks : List Kind} {n : Nat} : pick ks n = none ↔ ks = [] := by
  unfold pick
  cases ks with
  | nil => simp
  | cons k ks => simpa using Nat.mod_lt n (Nat.succ_pos ks.length)

theorem pick_mem {ks : List Kind} {n : Nat} {k : Kind} (h : pick ks n = some k) : k ∈ ks := by
  unfold pick at h
  split at h
  · cases h
  · exact List.mem_of_getElem? h

theorem pick_of_mem {ks : List Kind} {k : Kind} (h : k ∈ ks) : ∃ n, pick ks n = some k := by
  obtain ⟨i, hi, he⟩ := List.getElem_of_mem h
  refine ⟨i, ?_⟩
  unfold pick
  rw [if_neg (by omega), Nat.mod_eq_of_lt hi, List.getElem?_eq_getElem hi, he]

theorem pick_zero_disc {close : Option Nat} {s : St} {arr : List (Nat × Nat)} {t : Nat}
    (h1 : ¬ optLe close t = true) (h2 : optLe s.discDue t = true) :
    pick (ready close s arr t) 0 = some .disc := by
  simp [ready, pick, h1, h2]

/-! ### one iteration -/

/-- The instant of the next iteration and the cases ready at it; `none` when the loop returns the state
    as it is. `loop` and `loopAll` go through the same tests: they are done here once. -/
def turn (close : Option Nat) (hz : Nat) (s : St) (arr : List (Nat × Nat)) : Option (Nat × List Kind) :=
  if s.done then none else
  match nextInstant close s arr with
  | none => none
  | some t => if t > hz then none else some (t, ready close s arr t)

theorem loop_succ_eq (c : Cfg) (close : Option Nat) (hz fuel : Nat) (s : St) (arr : List (Nat × Nat))
    (ch : List Nat) :
    loop c close hz (fuel + 1) s arr ch =
      match turn close hz s arr with
      | none => s
      | some (t, ks) =>
        match pick ks (ch.headD 0) with
        | none => s
        | some k =>
          match fire c s arr t k with
          | (s', none) => s'
          | (s', some arr') => loop c close hz fuel s' arr' ch.tail := by
  rw [loop, turn]
  cases s.done
  · cases nextInstant close s arr with
    | none => rfl
    | some t => by_cases h : t > hz <;> simp only [h, if_true, if_false] <;> rfl
  · rfl

theorem loopAll_succ_eq (c : Cfg) (close : Option Nat) (hz fuel : Nat) (s : St) (arr : List (Nat × Nat)) :
    loopAll c close hz (fuel + 1) s arr =
      match turn close hz s arr with
      | none => [s]
      | some (t, ks) =>
        match ks with
        | [] => [s]
        | ks => ks.flatMap fun k =>
          match fire c s arr t k with
          | (s', none) => [s']
          | (s', some arr') => loopAll c close hz fuel s' arr' := by
  rw [loopAll, turn]
  cases s.done
  · cases nextInstant close s arr with
    | none => rfl
    | some t => by_cases h : t > hz <;> simp only [h, if_true, if_false] <;> rfl
  · rfl

theorem turn_none {close : Option Nat} {hz : Nat} {s : St} {arr : List (Nat × Nat)}
    (h : turn close hz s arr = none) (hd : s.done = false) : IsNext close s arr (hz + 1) := by
  simp only [turn, hd, Bool.false_eq_true, if_false] at h
  split at h
  · rename_i hn; exact nextInstant_none hn _
  · rename_i t hn
    split at h
    · intro k x hk; have := (nextInstant_some hn).1 k x hk; omega
    · cases h

theorem turn_some {close : Option Nat} {hz : Nat} {s : St} {arr : List (Nat × Nat)} {t : Nat} {ks : List Kind}
    (h : turn close hz s arr = some (t, ks)) :
    IsNext close s arr t ∧ t ≤ hz ∧ ks = ready close s arr t ∧ ks ≠ [] := by
  unfold turn at h
  split at h
  · cases h
  · split at h
    · cases h
    · rename_i t' hn
      split at h
      · cases h
      · rename_i hle
        cases h
        obtain ⟨hn, k, hk⟩ := nextInstant_some hn
        refine ⟨hn, by omega, rfl, ?_⟩
        exact List.ne_nil_of_mem (hn.mem_ready.2 hk)

/-- At `t`, the earliest instant at which anything is due, within the horizon, `select` draws the number `n`
    and serves the case `k`. -/
structure Serves (close : Option Nat) (hz n : Nat) (s : St) (arr : List (Nat × Nat)) (t : Nat) (k : Kind) :
    Prop where
  next : IsNext close s arr t
  le : t ≤ hz
  pick : pick (ready close s arr t) n = some k

/-- The case `k`, due at `t`, is a write of `e`, after which the arrivals are `arr'`. -/
inductive Writes (s : St) (arr : List (Nat × Nat)) (t : Nat) : Kind → Ev → List (Nat × Nat) → Prop
  | hb : s.hbDue = some t → Writes s arr t .hb .comment arr
  | arr (id : Nat) (rest : List (Nat × Nat)) : arr = (t, id) :: rest → Writes s arr t .arr (.event id) rest

theorem Writes.isWrite {s : St} {arr arr' : List (Nat × Nat)} {t : Nat} {k : Kind} {e : Ev}
    (h : Writes s arr t k e arr') : Ev.isWrite e = true := by
  cases h <;> rfl

/-- What one iteration makes of a state that is not done: the new state, and the arrivals left if the loop
    goes on (`none`: it returns the new state). A failed write sets `done`, so the loop returns at its next
    test, whatever fuel is left: it counts as a return, and no state that is done is ever iterated. -/
inductive Step (c : Cfg) (close : Option Nat) (hz n : Nat) (s : St) (arr : List (Nat × Nat)) :
    St → Option (List (Nat × Nat)) → Prop
  | close {t : Nat} : Serves close hz n s arr t .close → close = some t →
      Step c close hz n s arr { s with trace := (t, .clientClose) :: s.trace, done := true } none
  | disc {t : Nat} : Serves close hz n s arr t .disc → s.discDue = some t →
      Step c close hz n s arr { s with trace := (t, .selfClose) :: s.trace, done := true } none
  | wrote {t : Nat} {k : Kind} {e : Ev} {arr' : List (Nat × Nat)} : Serves close hz n s arr t k →
      Writes s arr t k e arr' → writeOk c t = true →
      Step c close hz n s arr
        { s with trace := (t, e) :: s.trace, hbDue := if c.hb = 0 then s.hbDue else some (t + c.hb) } (some arr')
  | failed {t : Nat} {k : Kind} {e : Ev} {arr' : List (Nat × Nat)} : Serves close hz n s arr t k →
      Writes s arr t k e arr' → writeOk c t = false →
      Step c close hz n s arr { s with trace := (t, .endWrite) :: (t, .failed) :: s.trace, done := true } none

theorem loop_done {c : Cfg} {close : Option Nat} {hz : Nat} {s : St} (hd : s.done = true) (fuel : Nat)
    (arr : List (Nat × Nat)) (ch : List Nat) : loop c close hz fuel s arr ch = s := by
  cases fuel <;> rw [loop]
  rw [if_pos hd]

theorem step_write {c : Cfg} {close : Option Nat} {hz n : Nat} {s : St} {arr arr' : List (Nat × Nat)} {t : Nat}
    {k : Kind} {e : Ev} (hs : Serves close hz n s arr t k) (hw : Writes s arr t k e arr') (fuel : Nat)
    (ch : List Nat) :
    ∃ s' o, Step c close hz n s arr s' o ∧
      loop c close hz fuel (s.write c t e true) arr' ch =
        match o with | none => s' | some arr' => loop c close hz fuel s' arr' ch := by
  unfold St.write
  cases hok : writeOk c t
  · exact ⟨_, none, .failed hs hw hok, loop_done rfl ..⟩
  · refine ⟨_, some arr', .wrote hs hw hok, ?_⟩
    by_cases h0 : c.hb = 0 <;> simp [h0]

theorem loop_succ (c : Cfg) (close : Option Nat) (hz fuel : Nat) {s : St} (arr : List (Nat × Nat))
    (ch : List Nat) (hd : s.done = false) :
    (IsNext close s arr (hz + 1) ∧ loop c close hz (fuel + 1) s arr ch = s) ∨
    ∃ s' o, Step c close hz (ch.headD 0) s arr s' o ∧
      loop c close hz (fuel + 1) s arr ch =
        match o with | none => s' | some arr' => loop c close hz fuel s' arr' ch.tail := by
  rw [loop_succ_eq]
  cases ht : turn close hz s arr with
  | none => exact .inl ⟨turn_none ht hd, rfl⟩
  | some p =>
    obtain ⟨t, ks⟩ := p
    obtain ⟨hn, hle, rfl, hne⟩ := turn_some ht
    right
    dsimp only
    cases hp : pick (ready close s arr t) (ch.headD 0) with
    | none => exact absurd (pick_eq_none.1 hp) hne
    | some k =>
      have hk := hn.mem_ready.1 (pick_mem hp)
      have hs : Serves close hz (ch.headD 0) s arr t k := ⟨hn, hle, hp⟩
      cases k with
      | close => exact ⟨_, none, .close hs hk, rfl⟩
      | disc => exact ⟨_, none, .disc hs hk, rfl⟩
      | hb => exact step_write hs (.hb hk) fuel ch.tail
      | arr =>
        cases arr with
        | nil => cases hk
        | cons a rest =>
          obtain ⟨ta, id⟩ := a
          cases hk
          exact step_write hs (.arr id rest rfl) fuel ch.tail

/-! ### induction over the fuel -/

/-- `Q` is any property of the numbers `select` draws (`fun _ => True` for every resolution of
    the ties, `(· = 0)` for the fixed order of `run`). The loop returns through `hend`, or through `hout`
    when nothing is due any more or the fuel is spent. -/
theorem loop_safe {c : Cfg} {close : Option Nat} {hz : Nat} (Q : Nat → Prop) (hQ0 : Q 0) (Inv Post : St → Prop)
    (hgo : ∀ n s arr s' arr', Inv s → Step c close hz n s arr s' (some arr') → Inv s')
    (hend : ∀ n s arr s', Q n → Inv s → Step c close hz n s arr s' none → Post s')
    (hout : ∀ s, s.done = false → Inv s → Post s) :
    ∀ fuel s arr ch, (∀ n ∈ ch, Q n) → s.done = false → Inv s → Post (loop c close hz fuel s arr ch) := by
  intro fuel
  induction fuel with
  | zero => intro s arr ch _ hd h; rw [loop]; exact hout s hd h
  | succ fuel ih =>
    intro s arr ch hch hd h
    have hq : Q (ch.headD 0) := by
      cases ch with
      | nil => exact hQ0
      | cons a l => exact hch a (List.mem_cons_self ..)
    rcases loop_succ c close hz fuel arr ch hd with ⟨_, he⟩ | ⟨s', o, hst, he⟩ <;> rw [he]
    · exact hout s hd h
    · cases o with
      | none => exact hend _ s arr s' hq h hst
      | some arr' =>
        have hd' : s'.done = false := by cases hst; exact hd
        exact ih s' arr' ch.tail (fun n hn => hch n (List.mem_of_mem_tail hn)) hd' (hgo _ s arr s' arr' h hst)

/-! ### the shape of a trace

  Successful writes, then at most one ending: the client's close, the disconnection timer, or a write that
  failed. -/

/-- The state `runCh` returns the trace of. -/
def final (c : Cfg) (arr : List (Nat × Nat)) (close : Option Nat) (hz : Nat) (ch : List Nat) : St :=
  loop c close hz (fuelFor c arr hz) (init c) arr ch

theorem runCh_eq (c : Cfg) (arr : List (Nat × Nat)) (close : Option Nat) (hz : Nat) (ch : List Nat) :
    runCh c arr close hz ch = (final c arr close hz ch).trace.reverse := rfl

theorem mem_runCh {c : Cfg} {arr : List (Nat × Nat)} {close : Option Nat} {hz : Nat} {ch : List Nat}
    {p : Nat × Ev} : p ∈ runCh c arr close hz ch ↔ p ∈ (final c arr close hz ch).trace := by
  rw [runCh_eq, List.mem_reverse]

theorem init_discDue_none {c : Cfg} (hw : c.wt = 0) : (init c).discDue = none := by simp [init, hw]

theorem init_discDue {c : Cfg} {d : Nat} (hw : c.wt ≠ 0) (hd : c.deadline = some d) :
    (init c).discDue = some (d - c.dt) := by simp [init, hw, hd]

theorem writeOk_of_deadline {c : Cfg} {d : Nat} (hd : c.deadline = some d) (t : Nat) :
    writeOk c t = decide (t < d) := by
  simp [writeOk, hd]

theorem writeOk_of_no_deadline {c : Cfg} (hd : c.deadline = none) (t : Nat) : writeOk c t = true := by
  simp [writeOk, hd]

/-- The entries of a stream that nothing has ended: successful writes, each before the deadline (the first
    comment goes out at t0, before any deadline applies), none after the disconnection timer. -/
def Open (c : Cfg) (tr : List (Nat × Ev)) : Prop :=
  ∀ p ∈ tr, Ev.isWrite p.2 = true ∧ (p.1 = 0 ∨ writeOk c p.1 = true) ∧ ∀ x, (init c).discDue = some x → p.1 ≤ x

/-- The ways a stream ends at `t`: what the handler logs last, most recent first. A write can fail at the
    very instant of the disconnection timer only if `select` drew a number other than 0 (the client still
    being there): `Q` is what is known of the numbers drawn. -/
inductive Ending (c : Cfg) (close : Option Nat) (Q : Nat → Prop) (t : Nat) : List (Nat × Ev) → Prop
  | client : close = some t → Ending c close Q t [(t, .clientClose)]
  | timer : (init c).discDue = some t → Ending c close Q t [(t, .selfClose)]
  | write : writeOk c t = false → ((init c).discDue = some t → close ≠ some t → ∃ n, Q n ∧ n ≠ 0) →
      Ending c close Q t [(t, .endWrite), (t, .failed)]

inductive Shape (c : Cfg) (close : Option Nat) (Q : Nat → Prop) (s : St) : Prop
  | running : s.done = false → s.discDue = (init c).discDue → Open c s.trace → Shape c close Q s
  | ended (t : Nat) (e tr : List (Nat × Ev)) : s.trace = e ++ tr → Ending c close Q t e →
      (∀ x, (init c).discDue = some x → t ≤ x) → Open c tr → Shape c close Q s

theorem final_shape_Q (Q : Nat → Prop) (hQ0 : Q 0) (c : Cfg) (arr : List (Nat × Nat)) (close : Option Nat)
    (hz : Nat) (ch : List Nat) (hch : ∀ n ∈ ch, Q n) : Shape c close Q (final c arr close hz ch) := by
  refine loop_safe Q hQ0 (fun s => s.discDue = (init c).discDue ∧ Open c s.trace) _ ?_ ?_ ?_ _ _ arr ch hch
    rfl ⟨rfl, ?_⟩
  · intro n s arr s' arr' ⟨hdd, ho⟩ hst
    cases hst with
    | wrote hs hw hok =>
      refine ⟨hdd, fun p hp => ?_⟩
      rcases List.mem_cons.1 hp with rfl | hp
      · exact ⟨hw.isWrite, .inr hok, fun x hx => hs.next .disc x (hdd.trans hx)⟩
      · exact ho p hp
  · intro n s arr s' hq ⟨hdd, ho⟩ hst
    -- whatever is served, it is served no later than the disconnection timer is due
    have hle : ∀ {t k}, Serves close hz n s arr t k → ∀ x, (init c).discDue = some x → t ≤ x :=
      fun hs x hx => hs.next .disc x (hdd.trans hx)
    cases hst with
    | close hs hc => exact .ended _ _ _ rfl (.client hc) (hle hs) ho
    | disc hs hd => exact .ended _ _ _ rfl (.timer (hdd ▸ hd)) (hle hs) ho
    | @failed t k e arr' hs hw hok =>
      refine .ended _ _ _ rfl (.write hok fun hd hc => ⟨n, hq, ?_⟩) (hle hs) ho
      -- had `select` drawn 0, it would have served the timer, not a write
      rintro rfl
      have hcl : ¬ optLe close t = true := by
        rintro h
        obtain ⟨x, hx, hxt⟩ := optLe_true.1 h
        exact hc (by rw [hx, Nat.le_antisymm hxt (hs.next .close x hx)])
      have := hs.pick
      rw [pick_zero_disc hcl (optLe_true.2 ⟨t, hdd.trans hd, Nat.le_refl t⟩)] at this
      cases this
      cases hw
  · exact fun s hd ⟨hdd, ho⟩ => .running hd hdd ho
  · intro p hp
    cases List.mem_singleton.1 hp
    exact ⟨rfl, .inl rfl, fun x _ => Nat.zero_le x⟩

theorem final_shape (c : Cfg) (arr : List (Nat × Nat)) (close : Option Nat) (hz : Nat) (ch : List Nat) :
    Shape c close (fun _ => True) (final c arr close hz ch) :=
  final_shape_Q _ trivial c arr close hz ch fun _ _ => trivial

/-- What the shape of a returned state says of an entry `(t, e)` of its trace. -/
def Entry (c : Cfg) (s : St) (t : Nat) : Ev → Prop
  | .comment | .event _ => t = 0 ∨ writeOk c t = true
  | .clientClose => True
  | .selfClose => (init c).discDue = some t
  | .failed | .endWrite => writeOk c t = false ∧ s.trace.head? = some (t, .endWrite)

theorem Shape.mem {c : Cfg} {close : Option Nat} {Q : Nat → Prop} {s : St} (h : Shape c close Q s)
    {t : Nat} {e : Ev} (hp : (t, e) ∈ s.trace) : Entry c s t e := by
  have hopen : ∀ tr, Open c tr → (t, e) ∈ tr → Entry c s t e := by
    intro tr ho hp
    obtain ⟨h1, h2, _⟩ := ho _ hp
    cases e <;> first | exact h2 | cases h1
  cases h with
  | running _ _ ho => exact hopen _ ho hp
  | ended t' e' tr htr he _ ho =>
    rcases List.mem_append.1 (htr ▸ hp) with hp | hp
    · cases he with
      | client _ => cases List.mem_singleton.1 hp; trivial
      | timer hd => cases List.mem_singleton.1 hp; exact hd
      | write hok _ =>
        simp only [List.mem_cons, List.not_mem_nil, or_false, Prod.mk.injEq] at hp
        rcases hp with ⟨rfl, rfl⟩ | ⟨rfl, rfl⟩ <;> exact ⟨hok, by rw [htr]; rfl⟩
    · exact hopen _ ho hp

theorem runCh_entry {c : Cfg} {arr : List (Nat × Nat)} {close : Option Nat} {hz : Nat} {ch : List Nat} {t : Nat}
    {e : Ev} (h : (t, e) ∈ runCh c arr close hz ch) : Entry c (final c arr close hz ch) t e :=
  (final_shape c arr close hz ch).mem (mem_runCh.1 h)

theorem run_write_lt (c : Cfg) (arr : List (Nat × Nat)) (close : Option Nat) (hz d : Nat) (ch : List Nat)
    (hd : c.deadline = some d) (hpos : 0 < d) :
    ∀ p ∈ runCh c arr close hz ch, Ev.isWrite p.2 = true → p.1 < d := by
  intro ⟨t, e⟩ hp hw
  have h := runCh_entry hp
  cases e <;> first | cases hw | skip
  all_goals
    rcases h with h | h
    · exact h ▸ hpos
    · simpa [writeOk_of_deadline hd] using h

def isW : Ev → Bool
  | .comment => true
  | .event _ => true
  | _ => false

theorem isW_eq (e : Ev) : isW e = Ev.isWrite e := by cases e <;> rfl

/-- Needs `0 < e`: see `expiry_zero_counterexample`. -/
theorem run_ends_on_first_write_after_expiry (c : Cfg) (arr : List (Nat × Nat)) (close : Option Nat)
    (hz e : Nat) (ch : List Nat) (hd : c.deadline = some e) (hpos : 0 < e) :
    ∀ t, (t, Ev.failed) ∈ runCh c arr close hz ch →
      e ≤ t ∧ (runCh c arr close hz ch).getLast? = some (t, .endWrite) ∧
      (∀ p ∈ runCh c arr close hz ch, isW p.2 = true → p.1 < e) := by
  intro t ht
  obtain ⟨hok, hl⟩ := runCh_entry ht
  rw [writeOk_of_deadline hd] at hok
  exact ⟨by simpa using hok, by rw [runCh_eq, List.getLast?_reverse]; exact hl,
    fun p hp hw => run_write_lt c arr close hz e ch hd hpos p hp (isW_eq _ ▸ hw)⟩

/-- Without `0 < e` the third conjunct of `run_ends_on_first_write_after_expiry` fails: the token is already
    expired at t0, the failed write exists, yet the initial comment is a successful write at time 0 = e. -/
theorem expiry_zero_counterexample :
    let c : Cfg := { wt := 0, dt := 0, hb := 1, exp := some 0 }
    run c [] none 1 = [(0, .comment), (1, .failed), (1, .endWrite)] ∧
    (1, Ev.failed) ∈ run c [] none 1 ∧
    ¬ (∀ p ∈ run c [] none 1, isW p.2 = true → p.1 < 0) := by
  refine ⟨by decide +kernel, by decide +kernel, ?_⟩
  intro h
  exact Nat.not_lt_zero _ (h (0, .comment) (by decide +kernel) rfl)

/-! ### the heartbeat -/

theorem writeTimes_cons_w {t : Nat} {e : Ev} {tr : List (Nat × Ev)} (h : Ev.isWrite e = true) :
    writeTimes ((t, e) :: tr) = t :: writeTimes tr := by simp [writeTimes, h]

theorem writeTimes_reverse (tr : List (Nat × Ev)) : writeTimes tr.reverse = (writeTimes tr).reverse := by
  simp [writeTimes, List.filter_reverse]

theorem chain_cons {R : Nat → Nat → Prop} {a : Nat} {l : List Nat} :
    Chain R (a :: l) ↔ (∀ b, l.head? = some b → R a b) ∧ Chain R l := by
  cases l <;> simp [Chain]

theorem chain_concat {R : Nat → Nat → Prop} {b : Nat} {l : List Nat} :
    Chain R (l ++ [b]) ↔ Chain R l ∧ ∀ a, l.getLast? = some a → R a b := by
  induction l with
  | nil => simp [Chain]
  | cons x l ih =>
    rw [List.cons_append, chain_cons, chain_cons, ih]
    cases l with
    | nil => simp [Chain]
    | cons y l =>
      simp only [List.cons_append, List.head?_cons, Option.some.injEq, forall_eq', List.getLast?_cons_cons]
      exact and_assoc.symm

theorem chain_reverse {R : Nat → Nat → Prop} {l : List Nat} :
    Chain R l.reverse ↔ Chain (fun a b => R b a) l := by
  induction l with
  | nil => simp [Chain]
  | cons x l ih =>
    rw [List.reverse_cons, chain_concat, chain_cons, ih, List.getLast?_reverse]
    exact and_comm

/-- The heartbeat timer is armed one interval after the latest successful write. -/
def Beat (c : Cfg) (s : St) : Prop :=
  ∃ last, (writeTimes s.trace).head? = some last ∧ s.hbDue = some (last + c.hb)

/-- Nothing is served after the heartbeat timer is due, and every write
    re-arms it. -/
theorem final_beat (c : Cfg) (arr : List (Nat × Nat)) (close : Option Nat) (hz : Nat) (ch : List Nat)
    (hh : c.hb ≠ 0) :
    Chain (fun a b => a ≤ b + c.hb) (writeTimes (final c arr close hz ch).trace) ∧
    ((final c arr close hz ch).done = false → Beat c (final c arr close hz ch)) := by
  refine loop_safe (fun _ => True) trivial
    (fun s => Chain (fun a b => a ≤ b + c.hb) (writeTimes s.trace) ∧ Beat c s)
    (fun s => Chain (fun a b => a ≤ b + c.hb) (writeTimes s.trace) ∧ (s.done = false → Beat c s))
    ?_ ?_ ?_ _ _ arr ch (fun _ _ => trivial) rfl ⟨trivial, 0, rfl, by simp [init, hh]⟩
  · intro n s arr s' arr' ⟨h1, last, hl1, hl2⟩ hst
    cases hst with
    | @wrote t k e arr' hs hw hok =>
      refine ⟨?_, t, ?_, if_neg hh⟩ <;> simp only [writeTimes_cons_w hw.isWrite]
      · rw [chain_cons, hl1]
        exact ⟨fun b hb => Option.some.inj hb ▸ hs.next .hb _ hl2, h1⟩
      · rfl
  · intro n s arr s' _ ⟨h1, _⟩ hst
    refine ⟨?_, fun hd => ?_⟩
    · cases hst <;> exact h1  -- `writeTimes` computes the new entries away
    · cases hst <;> cases hd
  · exact fun s _ h => ⟨h.1, fun _ => h.2⟩

/-! ### the fuel of `runCh` suffices -/

/-- Arrivals are sorted; without a heartbeat the timer is off, otherwise it is armed one interval after an
    instant `last` that no arrival to come precedes (time does not run backwards). -/
def Mono (c : Cfg) (s : St) (arr : List (Nat × Nat)) : Prop :=
  arr.Pairwise (fun a b => a.1 ≤ b.1) ∧
  ((c.hb = 0 ∧ s.hbDue = none) ∨ (c.hb ≠ 0 ∧ ∃ last, s.hbDue = some (last + c.hb) ∧ ∀ a ∈ arr, last ≤ a.1))

/-- The arrivals left, and the heartbeats that still fit before the horizon. -/
def mu (c : Cfg) (hz : Nat) (s : St) (arr : List (Nat × Nat)) : Nat :=
  arr.length + (match s.hbDue with | some x => (hz + c.hb - x) / c.hb | none => 0)

theorem le_all_of_head {arr : List (Nat × Nat)} {t : Nat} (hp : arr.Pairwise (fun a b => a.1 ≤ b.1))
    (h : ∀ x, arr.head?.map (·.1) = some x → t ≤ x) : ∀ a ∈ arr, t ≤ a.1 := by
  cases arr with
  | nil => simp
  | cons a rest =>
    intro b hb
    rcases List.mem_cons.1 hb with rfl | hb
    · exact h _ rfl
    · exact Nat.le_trans (h _ rfl) ((List.pairwise_cons.1 hp).1 b hb)

theorem div_step {hb hz t : Nat} (h0 : hb ≠ 0) (ht : t ≤ hz) :
    (hz + hb - (t + hb)) / hb < (hz + hb - t) / hb := by
  have e1 : hz + hb - (t + hb) = hz - t := by omega
  have e2 : hz + hb - t = (hz - t) + hb := by omega
  rw [e1, e2, Nat.add_div_right _ (Nat.pos_of_ne_zero h0)]
  exact Nat.lt_succ_self _

/-- A heartbeat uses up one of the intervals that fit before the horizon; an arrival uses up an element of
    `arr` and can only push the heartbeat timer later. -/
theorem mono_step {c : Cfg} {close : Option Nat} {hz n : Nat} {s s' : St} {arr arr' : List (Nat × Nat)}
    (hm : Mono c s arr) (hst : Step c close hz n s arr s' (some arr')) :
    Mono c s' arr' ∧ mu c hz s' arr' < mu c hz s arr := by
  obtain ⟨hp, hm⟩ := hm
  cases hst with
  | @wrote t k e arr' hs hw hok =>
    rcases hm with ⟨h0, hn⟩ | ⟨h0, last, hl, hle⟩
    · cases hw with
      | hb hhb => rw [hn] at hhb; cases hhb
      | arr id rest harr =>
        subst harr
        exact ⟨⟨(List.pairwise_cons.1 hp).2, .inl ⟨h0, by simp [h0, hn]⟩⟩, by simp [mu, h0, hn]⟩
    · simp only [Mono, mu, if_neg h0, hl]
      cases hw with
      | hb hhb =>
        refine ⟨⟨hp, .inr ⟨h0, t, rfl, le_all_of_head hp (hs.next .arr)⟩⟩, ?_⟩
        have := div_step h0 hs.le
        rw [hl] at hhb; cases hhb
        omega
      | arr id rest harr =>
        subst harr
        rw [List.pairwise_cons] at hp
        refine ⟨⟨hp.2, .inr ⟨h0, t, rfl, hp.1⟩⟩, ?_⟩
        have := hle _ (List.mem_cons_self ..)
        have : (hz + c.hb - (t + c.hb)) / c.hb ≤ (hz + c.hb - (last + c.hb)) / c.hb :=
          Nat.div_le_div_right (by omega)
        simp only [List.length_cons]; omega

/-- With sorted arrivals the fuel is not what stops the loop: it returns a stream that is ended, or one
    whose timers are due after the horizon. -/
theorem loop_quiet {c : Cfg} {close : Option Nat} {hz : Nat} :
    ∀ fuel s arr ch, s.done = false → Mono c s arr → mu c hz s arr < fuel →
      (loop c close hz fuel s arr ch).done = false →
      ∀ x, (loop c close hz fuel s arr ch).discDue = some x ∨ (loop c close hz fuel s arr ch).hbDue = some x →
        hz < x := by
  intro fuel
  induction fuel with
  | zero => intro s arr ch _ _ h; exact absurd h (Nat.not_lt_zero _)
  | succ fuel ih =>
    intro s arr ch hd hm hf
    rcases loop_succ c close hz fuel arr ch hd with ⟨hq, he⟩ | ⟨s', o, hst, he⟩ <;> rw [he]
    · rintro _ x (hx | hx)
      · exact hq .disc x hx
      · exact hq .hb x hx
    · cases o with
      | none => intro h; cases hst <;> cases h
      | some arr' =>
        obtain ⟨hm', hlt⟩ := mono_step hm hst
        have hd' : s'.done = false := by cases hst; exact hd
        exact ih s' arr' ch.tail hd' hm' (by omega)

/-- The fuel is never what ends the loop: `fuelFor` exceeds the measure `mu` of the initial state, which every iteration
    that goes on decreases, so a state that is not done has nothing due within the horizon. -/
theorem final_quiet (c : Cfg) {arr : List (Nat × Nat)} (close : Option Nat) (hz : Nat) (ch : List Nat)
    (hs : arr.Pairwise (fun a b => a.1 ≤ b.1)) (hd : (final c arr close hz ch).done = false) :
    ∀ x, (final c arr close hz ch).discDue = some x ∨ (final c arr close hz ch).hbDue = some x → hz < x := by
  refine loop_quiet _ _ arr ch rfl ⟨hs, ?_⟩ ?_ hd <;> by_cases hh : c.hb = 0 <;> simp [init, mu, fuelFor, hh]

/-! ### the disconnection timer under ties

  At the instant `d - dt` the disconnection timer can tie with the heartbeat timer or with arrivals:
  `select` may serve those first (still at the instant `d - dt`), any number of times, before it serves
  the disconnection timer. Such a write succeeds when `d - dt < d`; when `d - dt = d` (dispatch timeout 0,
  or a deadline of 0) it is a write at the deadline itself: it fails and the handler returns through the
  write-failure path instead of the timer. With the fixed order of `run` (choice 0) the timer always wins. -/

theorem run_self_disconnect_Q (Q : Nat → Prop) (hQ0 : Q 0)
    (c : Cfg) (arr : List (Nat × Nat)) (close : Option Nat) (hz d : Nat) (ch : List Nat)
    (hch : ∀ n ∈ ch, Q n)
    (hs : arr.Pairwise (fun a b => a.1 ≤ b.1)) (hw : c.wt ≠ 0) (hd : c.deadline = some d)
    (hhz : d - c.dt ≤ hz) (hc : ∀ x, close = some x → d - c.dt < x) :
    ∃ tr, (runCh c arr close hz ch = tr ++ [(d - c.dt, .selfClose)] ∨
        (¬ d - c.dt < d ∧ (∃ n, Q n ∧ n ≠ 0) ∧
          runCh c arr close hz ch = tr ++ [(d - c.dt, .failed), (d - c.dt, .endWrite)])) ∧
      ∀ p ∈ tr, Ev.isEnd p.2 = false ∧ p.2 ≠ .failed ∧ p.1 ≤ d - c.dt := by
  have hdd := init_discDue hw hd
  cases final_shape_Q Q hQ0 c arr close hz ch hch with
  | running hdn hdisc _ =>
    -- the timer is due within the horizon, so the loop cannot have returned a stream still open
    have := final_quiet c close hz ch hs hdn _ (.inl (hdisc.trans hdd))
    omega
  | ended t e tr htr he hle ho =>
    have hle := hle _ hdd
    refine ⟨tr.reverse, ?_, fun p hp => ?_⟩
    · cases he with
      | client hcl => have := hc t hcl; omega
      | timer ht => cases hdd.symm.trans ht; exact .inl (by simp [runCh_eq, htr])
      | write hok htie =>
        have : ¬ t < d := by simpa [writeOk_of_deadline hd] using hok
        have ht : t = d - c.dt := by omega
        subst ht
        exact .inr ⟨this, htie hdd fun h => Nat.lt_irrefl _ (hc _ h), by simp [runCh_eq, htr]⟩
    · obtain ⟨h1, _, h3⟩ := ho p (List.mem_reverse.1 hp)
      refine ⟨?_, ?_, h3 _ hdd⟩ <;> cases h : p.2 <;> simp [h, Ev.isWrite, Ev.isEnd] at h1 ⊢

/-- Without `d - c.dt < d` the stream need not end by the disconnection timer, for some resolution of the ties: with
    dispatch timeout 0 the disconnection timer and the heartbeat are both due at 1000 = the deadline; if
    `select` serves the heartbeat first, that write fails and the handler returns through the failed write. -/
theorem self_disconnect_tie_counterexample :
    let c : Cfg := { wt := 1000, dt := 0, hb := 1000, exp := none }
    c.deadline = some 1000 ∧
    runCh c [] none 2000 [0] = [(0, .comment), (1000, .selfClose)] ∧
    runCh c [] none 2000 [1] = [(0, .comment), (1000, .failed), (1000, .endWrite)] ∧
    ¬ (∃ tr, runCh c [] none 2000 [1] = tr ++ [(1000 - c.dt, .selfClose)]) := by
  refine ⟨by decide +kernel, by decide +kernel, by decide +kernel, ?_⟩
  rintro ⟨tr, h⟩
  have h2 : (runCh { wt := 1000, dt := 0, hb := 1000, exp := none } [] none 2000 [1]).getLast? =
      some (1000, Ev.endWrite) := by decide +kernel
  rw [h] at h2
  simp at h2

/-! ### `runAll` and `runCh` -/

theorem mem_loopAll_iff (c : Cfg) (close : Option Nat) (hz : Nat) :
    ∀ fuel s arr s', s' ∈ loopAll c close hz fuel s arr ↔ ∃ ch, loop c close hz fuel s arr ch = s' := by
  have stay : ∀ s s' : St, s' ∈ [s] ↔ ∃ _ : List Nat, s = s' :=
    fun s s' => ⟨fun h => ⟨[], (List.mem_singleton.1 h).symm⟩, fun ⟨_, h⟩ => List.mem_singleton.2 h.symm⟩
  intro fuel
  induction fuel with
  | zero => intro s arr s'; simp only [loop, loopAll]; exact stay s s'
  | succ fuel ih =>
    intro s arr s'
    simp only [loop_succ_eq, loopAll_succ_eq]
    cases turn close hz s arr with
    | none => exact stay s s'
    | some p =>
      obtain ⟨t, ks⟩ := p
      cases ks with
      | nil => exact stay s s'
      | cons k0 ks =>
        -- `k` is served iff some number picks it; the numbers after the first are those of the rest of the loop
        simp only [List.mem_flatMap]
        constructor
        · rintro ⟨k, hk, h⟩
          obtain ⟨n, hn⟩ := pick_of_mem hk
          rcases hf : fire c s arr t k with ⟨s1, _ | arr'⟩ <;> rw [hf] at h
          · exact ⟨[n], by simp only [List.headD_cons, hn, hf]; exact (List.mem_singleton.1 h).symm⟩
          · obtain ⟨ch, hch⟩ := (ih s1 arr' s').1 h
            exact ⟨n :: ch, by simp only [List.headD_cons, List.tail_cons, hn, hf]; exact hch⟩
        · rintro ⟨ch, h⟩
          cases hp : pick (k0 :: ks) (ch.headD 0) with
          | none => cases pick_eq_none.1 hp
          | some k =>
            refine ⟨k, pick_mem hp, ?_⟩
            simp only [hp] at h
            rcases hf : fire c s arr t k with ⟨s1, _ | arr'⟩ <;> rw [hf] at h
            · exact List.mem_singleton.2 h.symm
            · exact (ih s1 arr' s').2 ⟨_, h⟩

theorem mem_runAll_iff (c : Cfg) (arr : List (Nat × Nat)) (close : Option Nat) (hz : Nat)
    (tr : List (Nat × Ev)) :
    tr ∈ runAll c arr close hz ↔ ∃ ch, tr = runCh c arr close hz ch := by
  simp only [runAll, runCh, List.mem_map, mem_loopAll_iff]
  exact ⟨fun ⟨_, ⟨ch, h⟩, e⟩ => ⟨ch, by rw [h, e]⟩, fun ⟨ch, e⟩ => ⟨_, ⟨ch, rfl⟩, e.symm⟩⟩

/-- Soundness of the acceptor: every accepted trace is the trace under some resolution of the ties. -/
theorem runAll_sound (c : Cfg) (arr : List (Nat × Nat)) (close : Option Nat) (hz : Nat) :
    ∀ tr ∈ runAll c arr close hz, ∃ ch, tr = runCh c arr close hz ch :=
  fun tr => (mem_runAll_iff c arr close hz tr).1

/-- Completeness of the acceptor: the trace under any resolution of the ties is accepted. -/
theorem runCh_mem_runAll (c : Cfg) (arr : List (Nat × Nat)) (close : Option Nat) (hz : Nat) (ch : List Nat) :
    runCh c arr close hz ch ∈ runAll c arr close hz :=
  (mem_runAll_iff c arr close hz _).2 ⟨ch, rfl⟩

/-- `run` is the trace under the empty list of choices (every tie resolved by index 0). -/
theorem run_eq_runCh_nil (c : Cfg) (arr : List (Nat × Nat)) (close : Option Nat) (hz : Nat) :
    run c arr close hz = runCh c arr close hz [] := rfl

end Mercure.Timed

/-
  Mercure.Lemmas.Keyed — a history kept from some position on, under consecutive keys: the shape of the Bolt
  bucket in `Model/Retention` and in `Model/Sys`, and what appending one entry and the body of `cleanup` do to it.
-/
namespace Mercure

/-- Under consecutive keys `k + 1, k + 2, …` the entries with a key above `c` are what is left after dropping `c - k`. -/
theorem filter_gt_keys {α : Type} (c : Nat) (L : List (Nat × α)) (k m : Nat)
    (hk : L.map (·.1) = List.range' (k + 1) m) :
    L.filter (fun e => e.1 > c) = L.drop (c - k) := by
  induction L generalizing k m with
  | nil => simp
  | cons e rest ih =>
    cases m with
    | zero => simp at hk
    | succ m =>
      simp only [List.range'_succ, List.map_cons, List.cons.injEq] at hk
      rw [List.filter_cons, ih (k + 1) m hk.2]
      -- the head has key `k + 1`: it goes iff `k < c`, iff something is dropped at all
      by_cases hc : e.1 > c
      · have : c - k = 0 ∧ c - (k + 1) = 0 := by omega
        rw [if_pos (by simpa using hc), this.1, this.2]; rfl
      · have : c - k = (c - (k + 1)) + 1 := by omega
        rw [if_neg (by simpa using hc), this]; rfl

/-- `db` holds `acc` from position `k` on, the `i`-th element of `acc` (counting from 1) under the key `i`. -/
structure Keyed {α : Type} (k : Nat) (acc : List α) (db : List (Nat × α)) : Prop where
  le : k ≤ acc.length
  snd : db.map (·.2) = acc.drop k
  fst : db.map (·.1) = List.range' (k + 1) (acc.length - k)

namespace Keyed
variable {α : Type} {k : Nat} {acc : List α} {db : List (Nat × α)}

theorem length (h : Keyed k acc db) : db.length = acc.length - k := by
  simpa using congrArg List.length h.fst

theorem mem_acc (h : Keyed k acc db) {e : Nat × α} (he : e ∈ db) : e.2 ∈ acc :=
  List.mem_of_mem_drop (h.snd ▸ List.mem_map_of_mem he)

/-- The `j`-th element of `acc` (counting from 0), if it is past the cut, is in `db` under the key `j + 1`. -/
theorem mem_db (h : Keyed k acc db) {j : Nat} {u : α} (hu : acc[j]? = some u) (hj : k ≤ j) : (j + 1, u) ∈ db := by
  have hjl : j < acc.length := (List.getElem?_eq_some_iff.1 hu).1
  have e1 : (db.map (·.1))[j - k]? = some (j + 1) := by
    rw [h.fst, List.getElem?_range' (by omega)]; congr 1; omega
  have e2 : (db.map (·.2))[j - k]? = some u := by
    rw [h.snd, List.getElem?_drop, ← hu]; congr 1; omega
  rw [List.getElem?_map] at e1 e2
  cases hd : db[j - k]? with
  | none => rw [hd] at e1; cases e1
  | some e =>
    rw [hd] at e1 e2
    simp only [Option.map_some, Option.some.injEq] at e1 e2
    exact (show e = (j + 1, u) by rw [← e1, ← e2]) ▸ List.mem_of_getElem? hd

theorem append (h : Keyed k acc db) (u : α) : Keyed k (acc ++ [u]) (db ++ [(acc.length + 1, u)]) := by
  obtain ⟨hk, hsnd, hfst⟩ := h
  refine ⟨by simp; omega, ?_, ?_⟩
  · rw [List.map_append, List.drop_append_of_le_length hk, hsnd]; rfl
  · have : (acc ++ [u]).length - k = (acc.length - k) + 1 := by simp; omega
    rw [this, List.range'_concat, List.map_append, hfst]
    simp; omega

theorem drop (h : Keyed k acc db) (j : Nat) (hj : k + j ≤ acc.length) : Keyed (k + j) acc (db.drop j) := by
  obtain ⟨_, hsnd, hfst⟩ := h
  refine ⟨hj, by rw [List.map_drop, hsnd, List.drop_drop], ?_⟩
  rw [List.map_drop, hfst, List.drop_range']
  congr 1 <;> omega

/-- The body of `cleanup` (the same in `Mercure.retain` and `Sys.retain`): on a keyed history it moves the
    cut to `last - size` if that is further; size 0, or a size not yet reached, deletes nothing. -/
theorem cleanup (h : Keyed k acc db) (size last : Nat) (hl : last ≤ acc.length) :
    Keyed (if size = 0 then k else max k (last - size)) acc
      (if (size == 0 || size ≥ last) = true then db else db.filter (fun e => e.1 > last - size)) := by
  by_cases hg : (size == 0 || size ≥ last) = true
  · have : (if size = 0 then k else max k (last - size)) = k := by
      simp at hg; split <;> omega
    rw [if_pos hg, this]; exact h
  · have hg' : size ≠ 0 ∧ size < last := by simp at hg; omega
    have : max k (last - size) = k + (last - size - k) := by omega
    rw [if_neg hg, if_neg hg'.1, filter_gt_keys _ db k _ h.fst, this]
    exact h.drop _ (by have := h.le; omega)

end Keyed

end Mercure

import Mercure.Model.SubList
import Mercure.Model.Subscriber
/-
  Lemmas for C05 (the topic-list codec, `matchTopics`, the subscriber index); `matchTopics_eq` and
  `matchTopics_private` also serve C01 and C18.
-/
namespace Mercure

/-! ### decode ∘ encode -/

theorem foldl_decodeStep_escape (t : Str) :
    ∀ (pe : Bool) (b : Str) (pr : Bool) (tops : List Str) (rest : Str),
    List.foldl decodeStep ⟨pe, false, b, pr, tops⟩ (escapeTopic t ++ rest) =
      List.foldl decodeStep ⟨pe, false, t.reverse ++ b, pr, tops⟩ rest := by
  induction t with
  | nil => intros; simp [escapeTopic]
  | cons c cs ih =>
    intro pe b pr tops rest
    unfold escapeTopic
    split
    · next h =>
      subst h
      simp only [List.cons_append, List.foldl_cons]
      have : decodeStep (decodeStep ⟨pe, false, b, pr, tops⟩ escChar) escChar
          = ⟨pe, false, escChar :: b, pr, tops⟩ := by
        simp [decodeStep]
      rw [this, ih]; simp
    · split
      · next h0 h =>
        subst h
        simp only [List.cons_append, List.foldl_cons]
        have : decodeStep (decodeStep ⟨pe, false, b, pr, tops⟩ escChar) delimChar
            = ⟨pe, false, delimChar :: b, pr, tops⟩ := by
          simp [decodeStep]
        rw [this, ih]; simp
      · next h0 h1 =>
        simp only [List.cons_append, List.foldl_cons]
        have : decodeStep ⟨pe, false, b, pr, tops⟩ c = ⟨pe, false, c :: b, pr, tops⟩ := by
          simp [decodeStep, h0, h1]
        rw [this, ih]; simp

/-- Decoding the joined, escaped topics from a state whose builder `b` and topic list `tops` are still reversed (as
    `decodeStep` keeps them): the topics come back, the one in the builder first. -/
theorem foldl_decodeStep_join (l : List Str) :
    ∀ (x b : Str) (pr : Bool) (tops : List Str),
    let st := List.foldl decodeStep ⟨true, false, b, pr, tops⟩
                (joinWith [delimChar] ((x :: l).map escapeTopic))
    (st.builder.reverse :: st.topics).reverse = tops.reverse ++ (b.reverse ++ x) :: l ∧ st.priv = pr := by
  induction l with
  | nil =>
    intro x b pr tops
    have := foldl_decodeStep_escape x true b pr tops []
    simp only [List.append_nil] at this
    simp [joinWith, this]
  | cons y l ih =>
    intro x b pr tops
    have hj : joinWith [delimChar] ((x :: y :: l).map escapeTopic)
        = escapeTopic x ++ (delimChar :: joinWith [delimChar] ((y :: l).map escapeTopic)) := by
      simp [joinWith]
    rw [hj, foldl_decodeStep_escape]
    simp only [List.foldl_cons]
    have : decodeStep ⟨true, false, x.reverse ++ b, pr, tops⟩ delimChar
        = ⟨true, false, [], pr, (x.reverse ++ b).reverse :: tops⟩ := by
      have : ¬ (delimChar = escChar) := by decide
      simp [decodeStep, this]
    rw [this]
    have := ih y [] pr ((x.reverse ++ b).reverse :: tops)
    simpa using this

theorem sortStrs_ne_nil {ts : List Str} (h : ts ≠ []) : sortStrs ts ≠ [] := by
  cases ts with
  | nil => exact absurd rfl h
  | cons a l =>
    intro hs
    have : a ∈ sortStrs (a :: l) := mem_sortStrs.2 (by simp)
    rw [hs] at this
    cases this

theorem decode_encode (ts : List Str) (p : Bool) (h : ts ≠ []) :
    decode (encode ts p) = (sortStrs ts, p) := by
  have hne := sortStrs_ne_nil h
  unfold decode encode
  cases hs : sortStrs ts with
  | nil => exact absurd hs hne
  | cons y l =>
    have hj : joinWith [delimChar] ([if p then '1' else '0'] :: (y :: l).map escapeTopic)
        = (if p then '1' else '0') :: delimChar :: joinWith [delimChar] ((y :: l).map escapeTopic) := by
      simp [joinWith]
    rw [hj]
    simp only [List.foldl_cons]
    have h1 : decodeStep (decodeStep {} (if p then '1' else '0')) delimChar
        = ⟨true, false, [], p, []⟩ := by
      cases p <;> rfl
    rw [h1]
    have := foldl_decodeStep_join l y [] p []
    simp only at this
    obtain ⟨h2, h3⟩ := this
    rw [h2, h3]; simp

/-! ### MatchTopics -/

theorem foldl_matchTopicsStep (M : Str → Str → Bool) (subs allowed ts : List Str) :
    ∀ (s c : Bool),
    List.foldl (matchTopicsStep M subs allowed) ⟨s, c⟩ ts =
      ⟨s || ts.any (fun t => subs.any (M t)), c || ts.any (fun t => allowed.any (M t))⟩ := by
  induction ts with
  | nil => intro s c; simp
  | cons t ts ih =>
    intro s c
    simp only [List.foldl_cons, matchTopicsStep, ih, List.any_cons]
    cases s <;> cases c <;> simp

theorem matchTopics_eq (M : Str → Str → Bool) (subs allowed ts : List Str) (p : Bool) :
    matchTopics M subs allowed ts p =
      (ts.any (fun t => subs.any (M t)) && (!p || ts.any (fun t => allowed.any (M t)))) := by
  unfold matchTopics
  simp [foldl_matchTopicsStep]

theorem matchTopics_private (M : Str → Str → Bool) (sels allowed ts : List Str)
    (h : matchTopics M sels allowed ts true = true) : ∃ t ∈ ts, ∃ x ∈ allowed, M t x = true := by
  rw [matchTopics_eq] at h
  simp only [Bool.not_true, Bool.false_or, Bool.and_eq_true, List.any_eq_true] at h
  exact h.2

/-! ### skipfilter -/

/-- What a cached filter `(i, set)` for the signature `k` knows: it has looked at the ids below `i ≤ next`,
    holds only such ids, and among the indexed ones exactly those that pass the test. -/
def FInv {V : Type} (test : V → Str → Bool) (list : List (Nat × V)) (next : Nat) (k : Str)
    (f : Filter) : Prop :=
  f.i ≤ next ∧ (∀ id ∈ f.set, id < f.i) ∧
    (∀ e ∈ list, e.1 < f.i → (e.1 ∈ f.set ↔ test e.2 k = true))

/-- Invariant of the index (DESIGN §8.0): ids strictly increasing and below `next`; every cached
    filter is right about the ids it has looked at. -/
def SkipFilter.Inv {V : Type} (test : V → Str → Bool) (sf : SkipFilter V) : Prop :=
  (sf.list.map (·.1)).Pairwise (· < ·) ∧
  (∀ e ∈ sf.list, e.1 < sf.next) ∧
  (∀ c ∈ sf.cache, FInv test sf.list sf.next c.1 c.2)

/-- Fewer indexed values: a filter stays right. -/
theorem FInv.sub {V : Type} {test : V → Str → Bool} {l l' : List (Nat × V)} {n : Nat} {k : Str} {f : Filter}
    (h : FInv test l n k f) (hs : ∀ e ∈ l', e ∈ l) : FInv test l' n k f :=
  ⟨h.1, h.2.1, fun e he => h.2.2 e (hs e he)⟩

/-- One more value under the next id: a filter has not looked that far, so it stays right. -/
theorem FInv.add {V : Type} {test : V → Str → Bool} {l : List (Nat × V)} {n : Nat} {k : Str} {f : Filter}
    (h : FInv test l n k f) (v : V) : FInv test (l ++ [(n, v)]) (n + 1) k f := by
  refine ⟨Nat.le_succ_of_le h.1, h.2.1, fun e he hlt => ?_⟩
  rcases List.mem_append.1 he with he | he
  · exact h.2.2 e he hlt
  · cases List.mem_singleton.1 he
    exact absurd hlt (Nat.not_lt.2 h.1)

theorem mem_insertSorted {x y : Nat} {l : List Nat} :
    y ∈ SkipFilter.insertSorted x l ↔ y = x ∨ y ∈ l := by
  induction l with
  | nil => simp [SkipFilter.insertSorted]
  | cons z zs ih =>
    unfold SkipFilter.insertSorted
    split
    · simp
    · split
      · next h => subst h; simp
      · simp only [List.mem_cons, ih]; exact or_left_comm

theorem mem_foldl_insertSorted {V : Type} (l : List (Nat × V)) (id : Nat) :
    ∀ s : List Nat, id ∈ l.foldl (fun s (e : Nat × V) => SkipFilter.insertSorted e.1 s) s ↔
      id ∈ s ∨ ∃ e ∈ l, e.1 = id := by
  induction l with
  | nil => intro s; simp
  | cons a l ih =>
    intro s
    simp only [List.foldl_cons, ih, mem_insertSorted, List.mem_cons]
    constructor
    · rintro ((h | h) | ⟨e, he, h⟩)
      · exact Or.inr ⟨a, Or.inl rfl, h.symm⟩
      · exact Or.inl h
      · exact Or.inr ⟨e, Or.inr he, h⟩
    · rintro (h | ⟨e, (he | he), h⟩)
      · exact Or.inl (Or.inr h)
      · subst he; exact Or.inl (Or.inl h.symm)
      · exact Or.inr ⟨e, he, h⟩

theorem lookupFilter_fst (cache : List (Str × Filter)) (k : Str) :
    (SkipFilter.lookupFilter cache k).1 = ⟨0, []⟩ ∨
      (k, (SkipFilter.lookupFilter cache k).1) ∈ cache := by
  unfold SkipFilter.lookupFilter
  split
  · next e he =>
    right
    have h1 := List.find?_some he
    have h2 := List.mem_of_find?_eq_some he
    have h3 : e.1 = k := by simpa using h1
    rw [← h3]; exact h2
  · left; rfl

theorem lookupFilter_snd (cache : List (Str × Filter)) (k : Str) :
    ∀ c ∈ (SkipFilter.lookupFilter cache k).2, c ∈ cache := by
  unfold SkipFilter.lookupFilter
  split
  · intro c hc; exact (List.mem_filter.1 hc).1
  · intro c hc; exact hc

theorem eq_of_map_nodup {α β : Type} (f : α → β) {l : List α} (hu : (l.map f).Nodup) {x y : α}
    (hx : x ∈ l) (hy : y ∈ l) (h : f x = f y) : x = y := by
  induction l with
  | nil => cases hx
  | cons z zs ih =>
    rw [List.map_cons, List.nodup_cons] at hu
    rcases List.mem_cons.1 hx with h1 | hx1 <;> rcases List.mem_cons.1 hy with h2 | hy2
    · rw [h1, h2]
    · subst h1; exact absurd (List.mem_map.2 ⟨y, hy2, h.symm⟩) hu.1
    · subst h2; exact absurd (List.mem_map.2 ⟨x, hx1, h⟩) hu.1
    · exact ih hu.2 hx1 hy2

theorem extendFilter_spec {V : Type} (test : V → Str → Bool) (sf : SkipFilter V) (k : Str)
    (f : Filter) (hp : (sf.list.map (·.1)).Pairwise (· < ·)) (hlt : ∀ e ∈ sf.list, e.1 < sf.next)
    (hf : FInv test sf.list sf.next k f) :
    (SkipFilter.extendFilter test sf k f).i = sf.next ∧
    (∀ id ∈ (SkipFilter.extendFilter test sf k f).set, id < sf.next) ∧
    (∀ e ∈ sf.list, (e.1 ∈ (SkipFilter.extendFilter test sf k f).set ↔ test e.2 k = true)) := by
  obtain ⟨h1, h2, h3⟩ := hf
  unfold SkipFilter.extendFilter
  split
  · next hlt' =>
    refine ⟨rfl, ?_, ?_⟩
    · intro id hid
      simp only [mem_foldl_insertSorted, List.mem_filter] at hid
      rcases hid with hid | ⟨e, ⟨he, _⟩, rfl⟩
      · have := h2 id hid; omega
      · exact hlt e he
    · intro e he
      simp only [mem_foldl_insertSorted, List.mem_filter, Bool.and_eq_true, decide_eq_true_eq]
      constructor
      · rintro (hm | ⟨e', ⟨he', _, ht⟩, heq⟩)
        · have := h2 _ hm
          exact (h3 e he this).1 hm
        · have := eq_of_map_nodup Prod.fst (hp.imp Nat.ne_of_lt) he' he heq
          subst this; exact ht
      · intro ht
        by_cases hc : e.1 < f.i
        · exact Or.inl ((h3 e he hc).2 ht)
        · exact Or.inr ⟨e, ⟨he, by omega, ht⟩, rfl⟩
  · next hge =>
    have hi : f.i = sf.next := by omega
    refine ⟨hi, ?_, ?_⟩
    · intro id hid; have := h2 id hid; omega
    · intro e he
      exact h3 e he (by have := hlt e he; omega)

theorem lookupFilter_FInv {V : Type} (test : V → Str → Bool) (sf : SkipFilter V) (k : Str)
    (h : sf.Inv test) : FInv test sf.list sf.next k (SkipFilter.lookupFilter sf.cache k).1 := by
  rcases lookupFilter_fst sf.cache k with h0 | h0
  · rw [h0]; exact ⟨Nat.zero_le _, nofun, nofun⟩
  · exact h.2.2 _ h0

theorem matchAny_exact_of_inv {V : Type} (test : V → Str → Bool) (sf : SkipFilter V) (k : Str)
    (h : sf.Inv test) :
    (sf.matchAny test k).1 = sf.list.filter (fun e => test e.2 k) := by
  have hs := extendFilter_spec test sf k _ h.1 h.2.1 (lookupFilter_FInv test sf k h)
  unfold SkipFilter.matchAny SkipFilter.getFilter
  simp only
  apply List.filter_congr
  intro e he
  rw [Bool.eq_iff_iff, List.contains_iff_mem]
  exact hs.2.2 e he


theorem inv_new {V : Type} (test : V → Str → Bool) (cap : Nat) :
    (SkipFilter.new cap : SkipFilter V).Inv test := by
  simp [SkipFilter.Inv, SkipFilter.new]

theorem inv_add {V : Type} (test : V → Str → Bool) (sf : SkipFilter V) (v : V)
    (h : sf.Inv test) : (sf.add v).Inv test := by
  obtain ⟨h1, h2, h3⟩ := h
  refine ⟨?_, ?_, fun c hc => (h3 c hc).add v⟩
  · simp only [SkipFilter.add, List.map_append, List.map_cons, List.map_nil]
    rw [List.pairwise_append]
    refine ⟨h1, List.pairwise_singleton _ _, ?_⟩
    intro a ha b hb
    obtain ⟨e, he, rfl⟩ := List.mem_map.1 ha
    cases List.mem_singleton.1 hb
    exact h2 e he
  · intro e he
    rcases List.mem_append.1 he with he | he
    · exact Nat.lt_succ_of_lt (h2 e he)
    · cases List.mem_singleton.1 he; exact Nat.lt_succ_self _

theorem inv_removeId {V : Type} (test : V → Str → Bool) (sf : SkipFilter V) (id : Nat)
    (h : sf.Inv test) : (sf.removeId id).Inv test :=
  ⟨h.1.sublist (List.Sublist.map _ List.filter_sublist), fun e he => h.2.1 e (List.mem_filter.1 he).1,
    fun c hc => (h.2.2 c hc).sub fun _ he => (List.mem_filter.1 he).1⟩

theorem inv_evict {V : Type} (test : V → Str → Bool) (sf : SkipFilter V) (k : Str)
    (h : sf.Inv test) : (sf.evict k).Inv test :=
  ⟨h.1, h.2.1, fun c hc => h.2.2 c (List.mem_filter.1 hc).1⟩

theorem inv_matchAny {V : Type} (test : V → Str → Bool) (sf : SkipFilter V) (k : Str)
    (h : sf.Inv test) : (sf.matchAny test k).2.Inv test := by
  obtain ⟨hi, hlt, hm⟩ := extendFilter_spec test sf k _ h.1 h.2.1 (lookupFilter_FInv test sf k h)
  refine ⟨h.1, h.2.1, ?_⟩
  intro c hc
  simp only [SkipFilter.matchAny, SkipFilter.getFilter, List.mem_map] at hc
  obtain ⟨e, he, rfl⟩ := hc
  split
  · -- the filter for `k`: extended to `next`, then purged of the ids no longer indexed
    refine ⟨Nat.le_of_eq hi, fun id hid => hi ▸ hlt id (List.mem_filter.1 hid).1, fun x hx _ => ?_⟩
    show x.1 ∈ List.filter _ _ ↔ _
    rw [List.mem_filter, ← hm x hx, List.contains_iff_mem]
    exact and_iff_left (List.mem_map_of_mem hx)
  · next hne =>
    -- any other entry was in the cache before
    have he' : e ∈ (k, SkipFilter.extendFilter test sf k (SkipFilter.lookupFilter sf.cache k).1) ::
        (SkipFilter.lookupFilter sf.cache k).2 := by
      split at he
      · exact List.dropLast_subset _ he
      · exact he
    rcases List.mem_cons.1 he' with rfl | he2
    · simp at hne
    · exact h.2.2 e (lookupFilter_snd sf.cache k e he2)

theorem sfRun_inv {V : Type} (test : V → Str → Bool) (cap : Nat) (ops : List (SfOp V)) :
    (sfRun test cap ops).Inv test := by
  suffices h : ∀ sf : SkipFilter V, sf.Inv test → (ops.foldl (sfApply test) sf).Inv test from
    h _ (inv_new test cap)
  induction ops with
  | nil => intro sf h; exact h
  | cons op ops ih =>
    intro sf h
    simp only [List.foldl_cons]
    apply ih
    cases op with
    | add v => exact inv_add test sf v h
    | remove id => exact inv_removeId test sf id h
    | dispatch k => exact inv_matchAny test sf k h
    | evict k => exact inv_evict test sf k h

end Mercure
